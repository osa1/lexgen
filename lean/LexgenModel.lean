import LexgenModel.Model.RangeMap
import LexgenModel.Generated.Tables
import LexgenModel.Model.Regex
import LexgenModel.Model.Nfa
import LexgenModel.Model.Dfa
import LexgenModel.Model.Codegen
import LexgenModel.Model.Runtime
import LexgenModel.Model.Compile
import LexgenModel.Exec.Bisim
import LexgenModel.Exec.MachineWF
import LexgenModel.Model.TableGen
import LexgenModel.Model.Search
import LexgenModel.Props.C01
import LexgenModel.Props.C02
import LexgenModel.Props.C03
import LexgenModel.Props.C04
import LexgenModel.Props.C05
import LexgenModel.Props.C06
import LexgenModel.Props.C07
import LexgenModel.Props.C08
import LexgenModel.Props.C09
import LexgenModel.Props.C10
import LexgenModel.Props.C11
import LexgenModel.Props.C12
import LexgenModel.Props.C13
import LexgenModel.Props.C14
import LexgenModel.Props.C15
import LexgenModel.Props.C16
import LexgenModel.Props.C17
import LexgenModel.Props.C18
