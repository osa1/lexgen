import LexgenModel.Model.Compile
/-!
# Which definitions does the macro accept?  (declarative statement)

`StaticOK items` is the list of conditions a parsed `lexer!` definition has to satisfy for the model of
the macro (`compileLexer`) to succeed.  Nothing here refers to `compileLexer`, to an automaton or to a
monadic fold: the conditions talk about the list of items, about the items *before* a given item
(`items = pre ++ x :: post`) and about the substitution of variables (`inlineVars`, because the scoping rule
of the macro is "look the name up when it is used"; besides it only the test `mixedRules` and the table
`builtinRanges` of the model are mentioned).

The theorem `compileLexer_ok_iff` (Proofs/StaticIff.lean) says that, for definitions whose bracket ranges
are not inverted, `compileLexer` succeeds **iff** `StaticOK` holds.

Definitions only; no theorem in this file.
-/
namespace Lexgen

/-! ## What is declared where -/

/-- the `let`s written at top level, in source order -/
def topBindings (items : List TopItem) : Bindings :=
  items.filterMap fun | .rb (.binding n re) => some (n, re) | _ => none

/-- the `let`s written inside a rule set (or in a list of rules), in source order -/
def localBindings (rs : List RuleOrBinding) : Bindings :=
  rs.filterMap fun | .binding n re => some (n, re) | _ => none

/-- the names a list of bindings binds -/
def boundNames (b : Bindings) : List String := b.map (·.1)

/-- the names of the `rule X { .. }` blocks, in source order -/
def ruleSetNames (items : List TopItem) : List String :=
  items.filterMap fun | .ruleSet n _ => some n | _ => none

/-- number of `type Error = ..;` declarations -/
def errorTypeDecls (items : List TopItem) : Nat :=
  items.countP fun | .errorType => true | _ => false

/-! ## Regexes that elaborate -/

/-- a class expression: what `#` accepts as an operand once variables are substituted — characters,
bracket sets, `_`, *known* built-ins, and unions / differences of class expressions -/
def ClassExpr : Regex → Prop
  | .chr _ | .set _ | .any => True
  | .builtin n => builtinRanges n ≠ none
  | .alt a b | .diff a b => ClassExpr a ∧ ClassExpr b
  | _ => False

/-- a variable-free regex the automaton construction accepts: every built-in is known, every `#` has
class expressions as operands (and no variable is left — there is none after substitution) -/
def ClassOK : Regex → Prop
  | .builtin n => builtinRanges n ≠ none
  | .var _ => False
  | .diff a b => ClassExpr a ∧ ClassExpr b
  | .star r | .plus r | .opt r => ClassOK r
  | .cat a b | .alt a b => ClassOK a ∧ ClassOK b
  | .chr _ | .str _ | .set _ | .any | .eoi => True

/-- Fuel-free reading of the substitution: `Expands b re re'` says that `re'` is `re` with every variable
replaced, transitively, by its definition in `b` (first binding of that name).  A derivation is a finite
tree, so it exists only if every variable that is reached is bound and no variable is reached from its own
definition.  `StaticIff.inlineVars_ok_iff_expands` proves `inlineVars b (b.length + 1) re = .ok re' ↔
Expands b re re'` (the fuel of the model is never the limiting factor), hence
`Elaborates b re ↔ ∃ re', Expands b re re' ∧ ClassOK re'` (`StaticIff.elaborates_iff_expands`). -/
inductive Expands (b : Bindings) : Regex → Regex → Prop
  | builtin (n : String) : Expands b (.builtin n) (.builtin n)
  | var {n : String} {r r' : Regex} : b.find? n = some r → Expands b r r' → Expands b (.var n) r'
  | chr (c : Nat) : Expands b (.chr c) (.chr c)
  | str (cs : List Nat) : Expands b (.str cs) (.str cs)
  | set (items : List CharOrRange) : Expands b (.set items) (.set items)
  | star {r r' : Regex} : Expands b r r' → Expands b (.star r) (.star r')
  | plus {r r' : Regex} : Expands b r r' → Expands b (.plus r) (.plus r')
  | opt {r r' : Regex} : Expands b r r' → Expands b (.opt r) (.opt r')
  | cat {x y x' y' : Regex} : Expands b x x' → Expands b y y' → Expands b (.cat x y) (.cat x' y')
  | alt {x y x' y' : Regex} : Expands b x x' → Expands b y y' → Expands b (.alt x y) (.alt x' y')
  | any : Expands b .any .any
  | eoi : Expands b .eoi .eoi
  | diff {x y x' y' : Regex} : Expands b x x' → Expands b y y' → Expands b (.diff x y) (.diff x' y')

/-- `re` elaborates in the scope `b`: substituting the variables (transitively, looking each name up in
`b`) ends within the nesting depth `b.length + 1` — that is: every variable that is reached is bound and
the chain of references is not cyclic — and the result is accepted by the automaton construction -/
def Elaborates (b : Bindings) (re : Regex) : Prop :=
  ∃ re', inlineVars b (b.length + 1) re = .ok re' ∧ ClassOK re'

/-- the regex and the right context (if any) of a rule elaborate in the scope `b` -/
def RuleElaborates (b : Bindings) (r : SingleRule) : Prop :=
  Elaborates b r.re ∧ ∀ c, r.ctx = some c → Elaborates b c

/-! ## The accepted definitions -/

/-- the conditions on the body of `rule X { .. }` (or on the rules of any list), `outer` being the
top-level `let`s declared **before** the rule set: the scope at an item is `outer` plus the local `let`s
before it -/
structure RuleSetOK (outer : Bindings) (rs : List RuleOrBinding) : Prop where
  /-- a local `let x` repeats neither an earlier local `let` nor a top-level `let` declared before the
  rule set -/
  letFresh : ∀ rpre x re rpost, rs = rpre ++ .binding x re :: rpost →
    x ∉ boundNames (outer ++ localBindings rpre)
  /-- every rule elaborates in the scope at the rule -/
  ruleElab : ∀ rpre r rpost, rs = rpre ++ .rule r :: rpost →
    RuleElaborates (outer ++ localBindings rpre) r

/-- **The definitions the macro accepts.** The clauses are numbered by the kind of check of `lexer()`
(crates/lexgen/src/lib.rs) they mirror: 1 the mixing test, 2 `type Error`, 3 rule-set names, 4 `let` names,
5 compilation of the rules; `a` at top level, `b` inside a rule set. -/
structure StaticOK (items : LexerDef) : Prop where
  /-- 1. rules at top level and `rule X { .. }` blocks are not mixed -/
  notMixed : mixedRules items = false
  /-- 2. `type Error` is declared at most once -/
  errorTypeOnce : errorTypeDecls items ≤ 1
  /-- 3a. rule set names are pairwise distinct -/
  ruleSetsDistinct : (ruleSetNames items).Nodup
  /-- 3b. if there is a rule set, the first one is `Init` -/
  firstIsInit : ∀ n, (ruleSetNames items).head? = some n → n = "Init"
  /-- 4a. top-level `let` names are pairwise distinct -/
  topLetsDistinct : (boundNames (topBindings items)).Nodup
  /-- 4b, 5b. the body of every rule set is fine in the scope of the top-level `let`s declared before it
  (a top-level `let` declared after the rule set is not visible in it, and may reuse a local name) -/
  ruleSets : ∀ pre n rs post, items = pre ++ .ruleSet n rs :: post → RuleSetOK (topBindings pre) rs
  /-- 5a. every top-level rule elaborates in the scope of the top-level `let`s declared before it -/
  topRules : ∀ pre r post, items = pre ++ .rb (.rule r) :: post → RuleElaborates (topBindings pre) r

end Lexgen
