import LexgenModel.Spec.WellFormed
/-!
# The reference lexer of a definition (language level), as a relation on lexer states

`RefNext` describes one call of `next()` purely in terms of the DEFINITION: the rule set that is active,
the denotations of its regexes and right contexts (`LangCand`), maximal munch with first-rule priority
(`Selects`), and the semantic-action protocol (`callAction`: what the user's action does with the match).
No automaton, no backtrack flags, no saved match, no state numbering (other than the number that names
the active rule set). The refinement theorem `next_refines_ref` (Proofs/RefRefine.lean) says the model of
the generated code + runtime, run on the compiled machine of a well-formed definition, takes exactly
such steps.
-/
namespace Lexgen
variable {σ τ ε : Type}

/-- maximal munch with first-rule priority, at the language level: `(n, a, viaEoi)` is a match of the
definition and no match is longer (a match through `$` wins at full length) -/
def Selects (rules : List CoreRule) (ctxAt : Nat → Regex) (iter : List Nat) (n a : Nat) (viaEoi : Bool) : Prop :=
  LangCand rules ctxAt iter n a viaEoi ∧
  ∀ n' a' e', LangCand rules ctxAt iter n' a' e' → candLe n' e' n viaEoi

/-- the lexer is at the start of a lexeme with rule set `name` active: nothing saved, and
`__state = __initial_state` is the number the generated `switch` stores for `name` (`inl`: the
states the generator inlined — `cfg.inl` of the configuration that runs) -/
def ActiveIn (items : LexerDef) (c : Compiled) (inl : List Nat) (st : LState σ) (name : String) : Prop :=
  st.last = none ∧ st.state = st.initial ∧
  ∃ e, IsEntryOf items c name e ∧ st.state = renumber inl e

/-- the state handed to the semantic action of a match of `n` characters: the iterator and the match end
advanced by exactly `n` characters (whatever was read beyond is rewound), `done` set iff the match went
through `$`. `s'` is the `__state` the scan happened to stop in: `callAction` never reads `state` and
overwrites it by `initial`, so every `s'` gives the same step. -/
def matchState (width : Nat → Nat) (st : LState σ) (n : Nat) (viaEoi : Bool) (s' : Nat) : LState σ :=
  { advanceBy width st n with last := none, done := viaEoi, state := s' }

/-- what an `InvalidToken` leaves behind: `Init` (state 0) active, empty match, nothing saved, user state
untouched, input consumed up to some point after at least one character unless the input ended -/
structure ErrResume (st st' : LState σ) : Prop where
  state0 : st'.state = 0 ∧ st'.initial = 0
  emptyMatch : st'.curStart = st'.curEnd
  noSaved : st'.last = none
  user : st'.user = st.user
  consumed : ∃ m, st'.iter = st.iter.drop m ∧ (0 < m ∨ st'.done = true)
  doneOnlyAtEnd : st'.done = true → st'.iter = []

/-- One call of `next()` of the reference lexer. -/
inductive RefNext (items : LexerDef) (c : Compiled) (ctxAt : Nat → Regex) (cfg : Config σ τ ε) :
    LState σ → Option (Item τ ε) × LState σ → Prop
  /-- the stream is fused: after end-of-input was handled every call returns `None` -/
  | done (st : LState σ) : st.done = true → RefNext items c ctxAt cfg st (none, st)
  /-- the maximal match's action runs and returns an item -/
  | ret (st : LState σ) (name : String) (rs : List RuleOrBinding) (b : Bindings) (k : Nat) (rules : List CoreRule)
      (n a : Nat) (viaEoi : Bool) (s' : Nat) (item : Option (Item τ ε)) (st' : LState σ) :
      st.done = false → (name, rs, b, k) ∈ allRuleSets items → coreRules rs b k = some rules →
      ActiveIn items c cfg.inl st name → Selects rules ctxAt st.iter n a viaEoi →
      callAction cfg a (matchState cfg.width st n viaEoi s') = .ret item st' →
      RefNext items c ctxAt cfg st (item, st')
  /-- the maximal match's action runs and continues: the next lexeme is selected from the new state -/
  | cont (st : LState σ) (name : String) (rs : List RuleOrBinding) (b : Bindings) (k : Nat) (rules : List CoreRule)
      (n a : Nat) (viaEoi : Bool) (s' : Nat) (st2 : LState σ) (r : Option (Item τ ε) × LState σ) :
      st.done = false → (name, rs, b, k) ∈ allRuleSets items → coreRules rs b k = some rules →
      ActiveIn items c cfg.inl st name → Selects rules ctxAt st.iter n a viaEoi →
      callAction cfg a (matchState cfg.width st n viaEoi s') = .cont st2 →
      RefNext items c ctxAt cfg st2 r →
      RefNext items c ctxAt cfg st r
  /-- no rule matches, the input is exhausted and the first rule set is active: end of stream -/
  | eof (st : LState σ) (name : String) (rs : List RuleOrBinding) (b : Bindings) (k : Nat) (rules : List CoreRule)
      (st' : LState σ) :
      st.done = false → (name, rs, b, k) ∈ allRuleSets items → coreRules rs b k = some rules →
      ActiveIn items c cfg.inl st name → (∀ n a e, ¬ LangCand rules ctxAt st.iter n a e) →
      st.iter = [] → st.state = 0 → st'.done = true → st'.user = st.user →
      RefNext items c ctxAt cfg st (none, st')
  /-- no rule matches: `InvalidToken` located at the start of the current match, then resume in `Init` -/
  | invalid (st : LState σ) (name : String) (rs : List RuleOrBinding) (b : Bindings) (k : Nat) (rules : List CoreRule)
      (st' : LState σ) :
      st.done = false → (name, rs, b, k) ∈ allRuleSets items → coreRules rs b k = some rules →
      ActiveIn items c cfg.inl st name → (∀ n a e, ¬ LangCand rules ctxAt st.iter n a e) →
      ¬ (st.iter = [] ∧ st.state = 0) → ErrResume st st' →
      RefNext items c ctxAt cfg st (some (.invalid st.curStart), st')

end Lexgen
