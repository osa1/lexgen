import LexgenModel.Model.Compile
import LexgenModel.Model.Search
import LexgenModel.Spec.Scan
import LexgenModel.Proofs.RangeMapOps
/-!
# Specification-side definitions for the compile-time stages
-/
namespace Lexgen

/-! ## Class expressions (`regex_to_range_map`) -/

/-- the set a (variable-free) class expression denotes -/
def classDen : Regex → Nat → Prop
  | .chr c => fun x => x = c
  | .set items => fun x => ∃ it ∈ items, match it with | .chr c => x = c | .rng s e => s ≤ x ∧ x ≤ e
  | .any => fun x => x ≤ charMax
  | .builtin n => fun x => ∃ rs, builtinRanges n = some rs ∧ ∃ p ∈ rs, p.1 ≤ x ∧ x ≤ p.2
  | .alt a b => fun x => classDen a x ∨ classDen b x
  | .diff a b => fun x => classDen a x ∧ ¬ classDen b x
  | _ => fun _ => False

/-- the pieces a class expression is built from are well-formed: set ranges non-inverted -/
def classPiecesOK : Regex → Prop
  | .set items => ∀ it ∈ items, match it with | .chr _ => True | .rng s e => s ≤ e
  | .alt a b => classPiecesOK a ∧ classPiecesOK b
  | .diff a b => classPiecesOK a ∧ classPiecesOK b
  | _ => True

/-- every built-in table is sorted and disjoint (re-checked by the kernel for the current tables
in `Generated/TablesCheck.lean`) -/
def BuiltinsWF : Prop :=
  ∀ n rs, builtinRanges n = some rs → RangeMap.WF (builtinRangeMap rs)

/-! ## Right-context functions -/

/-- state reached in an (unsimplified) DFA by reading `w` -/
def reachN (d : DFA Nat) : Nat → List Nat → Option Nat
  | s, [] => some s
  | s, x :: w =>
    match lookupTrans (d.st s) x with
    | some t => reachN d t w
    | none => none

/-- `n` end-of-input transitions from `s` -/
def eoiChain (d : DFA Nat) : Nat → Nat → Option Nat
  | 0, s => some s
  | n + 1, s =>
    match (d.st s).eoi with
    | some t => eoiChain d n t
    | none => none

/-- The context automaton accepts some prefix of `rest` (end-of-input visible after all of
`rest`): an accepting state is reached after `j ≤ |rest|` characters, or after all characters and
some end-of-input transitions (at most one for contexts with `$` in tail position). -/
def CtxAccepts (d : DFA Nat) (rest : List Nat) : Prop :=
  (∃ j s, j ≤ rest.length ∧ reachN d 0 (rest.take j) = some s ∧ (d.st s).accepting ≠ []) ∨
  (∃ s n t, reachN d 0 rest = some s ∧ n ≤ d.length ∧ eoiChain d n s = some t ∧ (d.st t).accepting ≠ [])

end Lexgen

namespace Lexgen

/-! ## `simplify` and `add_dfa` -/

/-- every transition target of an (unsimplified) DFA is a state -/
def TargetsInRange (d : DFA Nat) : Prop := ∀ s, s < d.length → ∀ t ∈ DFA.succs (d.st s), t < d.length

/-- index of a kept state after the removed (transition-less, non-initial) states are dropped -/
def newIdx (d : DFA Nat) (s : Nat) : Nat := s - removedBelow (emptyStates d) s

/-- the configuration a state of the unsimplified DFA becomes: a removed state is the terminal
configuration carrying its accept list -/
def cfgOf (d : DFA Nat) (s : Nat) : Cfg :=
  if (emptyStates d).contains s then .term (d.st s).accepting else .st (newIdx d s)

end Lexgen

namespace Lexgen

/-! ## Static checks -/

/-- the macro rejects the definition (panic or `syn` error at expansion time) -/
def Rejected {α : Type} (x : Except CompileError α) : Prop := ∃ e, x = .error e

/-- the regex mentions the variable `n` directly (the bodies of bound variables are not looked
into; `inlineVars` follows those) -/
def MentionsVar (n : String) : Regex → Prop
  | .var m => m = n
  | .star r | .plus r | .opt r => MentionsVar n r
  | .cat a b | .alt a b | .diff a b => MentionsVar n a ∨ MentionsVar n b
  | _ => False

/-- the regex mentions a built-in name -/
def MentionsBuiltin (n : String) : Regex → Prop
  | .builtin m => m = n
  | .star r | .plus r | .opt r => MentionsBuiltin n r
  | .cat a b | .alt a b | .diff a b => MentionsBuiltin n a ∨ MentionsBuiltin n b
  | _ => False

/-- `e` is (syntactically) a class expression: what `#` accepts as an operand -/
def IsClassExpr : Regex → Prop
  | .chr _ | .set _ | .any | .builtin _ => True
  | .alt a b | .diff a b => IsClassExpr a ∧ IsClassExpr b
  | _ => False

end Lexgen
