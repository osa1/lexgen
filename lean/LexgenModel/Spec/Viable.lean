import LexgenModel.Spec.WellFormed
/-!
# Viable prefixes (definitions for the error-resume position and for `next = specNext`)
-/
namespace Lexgen

/-- every piece of the regex denotes something: classes contain at least one character, string literals are
non-empty, no variable is left (the well-formedness "no empty character class or empty string literal") -/
def NoEmptyPieces : Regex → Prop
  | .str cs => cs ≠ []
  | .set items => ∃ c, ∃ it ∈ items, itemHas it c
  | .builtin n => ∃ c, classDen (.builtin n) c
  | .diff a b => ∃ c, classDen (.diff a b) c
  | .var _ => False
  | .star r | .plus r | .opt r => NoEmptyPieces r
  | .cat a b | .alt a b => NoEmptyPieces a ∧ NoEmptyPieces b
  | _ => True

/-- `w` is a viable prefix: some rule denotes a word that starts with `w` -/
def Viable (rules : List CoreRule) (w : List Nat) : Prop :=
  ∃ r ∈ rules, ∃ v : List Sym, den r.re (w.map Sym.ch ++ v)

/-- `w` can be extended by at least one more symbol (a character or end-of-input) towards a word of some rule -/
def Extendable (rules : List CoreRule) (w : List Nat) : Prop :=
  ∃ r ∈ rules, ∃ (x : Sym) (v : List Sym), den r.re (w.map Sym.ch ++ x :: v)

/-- every rule of every rule set of the definition has no empty piece -/
def DefNE (items : LexerDef) : Prop :=
  ∀ name rs b k, (name, rs, b, k) ∈ allRuleSets items → ∀ rules, coreRules rs b k = some rules →
    ∀ r ∈ rules, NoEmptyPieces r.re

end Lexgen
