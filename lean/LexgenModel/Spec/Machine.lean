import LexgenModel.Spec.Scan
/-!
# Well-formed machines and the lexer-state invariant at lexeme boundaries

`MachineOK` collects, as propositions, what the decidable checker `machineWF` (evaluated on the
machine the macro actually produced) establishes; the run-time theorems assume nothing else about
the machine.
-/
namespace Lexgen

variable {σ τ ε : Type}

structure MachineOK (cfg : Config σ τ ε) : Prop where
  flags : flagsClosed cfg.dfa = true
  acceptAny : acceptAnyClause cfg.dfa = true
  targets : targetsOK cfg.dfa = true
  /-- the set of inlined states is strictly ascending, in range and contains no initial state
  (nothing else is assumed about the inlining policy) -/
  inl : InlOK cfg.dfa cfg.inl
  /-- state 0 (where failures return to; `Init`) is an initial, non-accepting state -/
  state0 : 0 < cfg.dfa.length ∧ (cfg.dfa.st 0).initial = true ∧ (cfg.dfa.st 0).accepting = []
  /-- rule-set entries are initial, non-accepting states (no rule matches the empty string) -/
  entries : ∀ p ∈ cfg.entries, p.2 < cfg.dfa.length ∧ (cfg.dfa.st p.2).initial = true ∧ (cfg.dfa.st p.2).accepting = []
  /-- end-of-input transitions lead to transition-less states (`$` only in tail position) -/
  eoiAccept : ∀ s t, (cfg.dfa.st s).eoi ≠ some (.goto t)

/-- `e` is the entry state of a rule set (or state 0). -/
def IsEntry (cfg : Config σ τ ε) (e : Nat) : Prop := e = 0 ∨ ∃ name, (name, e) ∈ cfg.entries

/-- Lexer state at the top of the `loop` in `next()`: no saved match, `__state = __initial_state`
= the number of a rule set's entry state. -/
def Ready (cfg : Config σ τ ε) (st : LState σ) : Prop :=
  st.last = none ∧ st.state = st.initial ∧ ∃ e, IsEntry cfg e ∧ st.state = renumber cfg.inl e

end Lexgen
