import LexgenModel.Model.RangeMap
import LexgenModel.Generated.Tables
/-!
# Model of the regex AST (`ast.rs`) and of class evaluation (`regex_to_nfa.rs::regex_to_range_map`)
-/
namespace Lexgen

/-- `char::MAX` -/
def charMax : Nat := 0x10FFFF

inductive CharOrRange where
  | chr (c : Nat)
  | rng (s e : Nat)
deriving Repr, DecidableEq, Inhabited

inductive Regex where
  | builtin (name : String)
  | var (name : String)
  | chr (c : Nat)
  | str (cs : List Nat)
  | set (items : List CharOrRange)
  | star (r : Regex)
  | plus (r : Regex)
  | opt (r : Regex)
  | cat (a b : Regex)
  | alt (a b : Regex)
  | any
  | eoi
  | diff (a b : Regex)
deriving Repr, DecidableEq, Inhabited

/-- Expansion-time failures (panics and `syn` errors of the macro). -/
inductive CompileError where
  | unboundVar (name : String)
  | unknownBuiltin (name : String)
  | notAClass (what : String)          -- operand of `#` that is not a character class
  | varCycle (name : String)           -- model only: the macro overflows its stack
  | dupVar (name : String)
  | dupRuleSet (name : String)
  | dupErrorType
  | mixedRules
  | firstNotInit
  | internal (what : String)           -- a modelled `assert!` fired
deriving Repr, DecidableEq, Inhabited

abbrev Bindings := List (String × Regex)

def Bindings.find? (b : Bindings) (name : String) : Option Regex :=
  match b with
  | [] => none
  | (n, r) :: rest => if n = name then some r else Bindings.find? rest name

/-- `get_builtin_regex`: first entry of `BUILTIN_RANGES` with that name. -/
def builtinRanges (name : String) : Option (List (Nat × Nat)) :=
  (Generated.builtins.find? (fun e => e.1 = name)).map (fun e => e.2.2)

/-- Substitution of variables (the macro does it lazily, at the use site, with the bindings in
scope where the rule is compiled). `fuel` bounds the nesting depth of variable references; a
cyclic definition (which overflows the macro's stack) runs out of fuel. -/
def inlineVars (b : Bindings) : Nat → Regex → Except CompileError Regex
  | _, .builtin n => .ok (.builtin n)
  | 0, .var n => .error (.varCycle n)
  | fuel + 1, .var n =>
    match b.find? n with
    | none => .error (.unboundVar n)
    | some r => inlineVars b fuel r
  | _, .chr c => .ok (.chr c)
  | _, .str cs => .ok (.str cs)
  | _, .set items => .ok (.set items)
  | fuel, .star r => do let r' ← inlineVars b fuel r; pure (.star r')
  | fuel, .plus r => do let r' ← inlineVars b fuel r; pure (.plus r')
  | fuel, .opt r => do let r' ← inlineVars b fuel r; pure (.opt r')
  | fuel, .cat x y => do let x' ← inlineVars b fuel x; let y' ← inlineVars b fuel y; pure (.cat x' y')
  | fuel, .alt x y => do let x' ← inlineVars b fuel x; let y' ← inlineVars b fuel y; pure (.alt x' y')
  | _, .any => .ok .any
  | _, .eoi => .ok .eoi
  | fuel, .diff x y => do let x' ← inlineVars b fuel x; let y' ← inlineVars b fuel y; pure (.diff x' y')

def unitMerge : Unit → Unit → Unit := fun _ _ => ()

/- `RangeMap::from_non_overlapping_sorted_ranges` applied to a built-in table (`regex_to_nfa.rs`).
Its `debug_assertions` check (`RangeMap.sortedNonOverlapping`) is not modelled as a failure; the
tables pass it, being well-formed range maps (`builtinsWF`). -/
def builtinRangeMap (ranges : List (Nat × Nat)) : RangeMap Unit :=
  ranges.map fun (s, e) => (s, e, ())

/-- `regex_to_range_map` on a variable-free regex. -/
def regexToRangeMap : Regex → Except CompileError (RangeMap Unit)
  | .builtin n =>
    match builtinRanges n with
    | none => .error (.unknownBuiltin n)
    | some rs => .ok (builtinRangeMap rs)
  | .var n => .error (.unboundVar n)
  | .chr c => .ok (RangeMap.insert unitMerge [] c c ())
  | .str _ => .error (.notAClass "string")
  | .set items =>
    .ok (items.foldl (fun m item =>
      match item with
      | .chr c => RangeMap.insert unitMerge m c c ()
      | .rng s e => RangeMap.insert unitMerge m s e ()) [])
  | .star _ => .error (.notAClass "*")
  | .plus _ => .error (.notAClass "+")
  | .opt _ => .error (.notAClass "?")
  | .cat _ _ => .error (.notAClass "concatenation")
  | .alt a b => do
    let m1 ← regexToRangeMap a
    let m2 ← regexToRangeMap b
    pure (RangeMap.insertRanges unitMerge m1 m2)
  | .any => .ok (RangeMap.insert unitMerge [] 0 charMax ())
  | .eoi => .error (.notAClass "$")
  | .diff a b => do
    let m1 ← regexToRangeMap a
    let m2 ← regexToRangeMap b
    pure (RangeMap.removeRanges m1 m2)

end Lexgen
