import LexgenModel.Model.Regex
/-!
# Model of `nfa.rs` and `regex_to_nfa.rs::add_re`

NFA states are numbered sequentially (`new_state`), as in the Rust code, so the numbering of the
model coincides with the macro's. Sets of states are sorted duplicate-free lists.
-/
namespace Lexgen

/-- Insert into a sorted duplicate-free list (`Set::insert` / `BTreeSet` order). -/
def setInsert (x : Nat) : List Nat → List Nat
  | [] => [x]
  | y :: ys => if x < y then x :: y :: ys else if x = y then y :: ys else y :: setInsert x ys

def setUnion (a b : List Nat) : List Nat := b.foldl (fun acc x => setInsert x acc) a

def setOfList (l : List Nat) : List Nat := setUnion [] l

/-- Value of an accepting state: semantic action index and optional right context index. -/
structure Acc where
  value : Nat
  ctx : Option Nat
deriving Repr, DecidableEq, Inhabited

structure NState where
  chars : List (Nat × List Nat) := []
  ranges : RangeMap (List Nat) := []
  eps : List Nat := []
  any : List Nat := []
  eoi : List Nat := []
  acc : Option Acc := none
deriving Repr, Inhabited

def NState.empty : NState := {}

abbrev NFA := List NState

namespace NFA

/-- `NFA::new`: one (initial) state. -/
def new : NFA := [NState.empty]

def st (n : NFA) (i : Nat) : NState := n.getD i NState.empty

/-- `new_state`: returns the NFA with a fresh state and its index. -/
def newState (n : NFA) : NFA × Nat := (n ++ [NState.empty], n.length)

def addCharTransition (n : NFA) (s c next : Nat) : Except CompileError NFA :=
  let st := n.st s
  match st.chars.find? (fun e => e.1 = c) with
  | some (_, tgts) =>
    if tgts.contains next then .error (.internal "add_char_transition")
    else .ok (n.modify s fun st =>
      { st with chars := st.chars.map fun e => if e.1 = c then (e.1, setInsert next e.2) else e })
  | none => .ok (n.modify s fun st => { st with chars := st.chars ++ [(c, [next])] })

def addRangeTransition (n : NFA) (s rs re next : Nat) : NFA :=
  n.modify s fun st => { st with ranges := RangeMap.insert setUnion st.ranges rs re [next] }

def addRangeTransitions (n : NFA) (s : Nat) (ranges : RangeMap Unit) (next : Nat) : NFA :=
  n.modify s fun st =>
    { st with ranges := RangeMap.insertRanges setUnion st.ranges (RangeMap.mapVals (fun _ => [next]) ranges) }

def addEmptyTransition (n : NFA) (s next : Nat) : Except CompileError NFA :=
  if (n.st s).eps.contains next then .error (.internal "add_empty_transition")
  else .ok (n.modify s fun st => { st with eps := setInsert next st.eps })

def addAnyTransition (n : NFA) (s next : Nat) : Except CompileError NFA :=
  if (n.st s).any.contains next then .error (.internal "add_any_transition")
  else .ok (n.modify s fun st => { st with any := setInsert next st.any })

def addEoiTransition (n : NFA) (s next : Nat) : Except CompileError NFA :=
  if (n.st s).eoi.contains next then .error (.internal "add_end_of_input_transition")
  else .ok (n.modify s fun st => { st with eoi := setInsert next st.eoi })

def makeStateAccepting (n : NFA) (s : Nat) (a : Acc) : Except CompileError NFA :=
  if (n.st s).acc.isSome then .error (.internal "make_state_accepting")
  else .ok (n.modify s fun st => { st with acc := some a })

/-- `Regex::String` loop of `add_re`. -/
def addStr : List Nat → Nat → Nat → NFA → Except CompileError NFA
  | [], _, _, n => .ok n
  | [c], cur, cont, n => n.addCharTransition cur c cont
  | c :: c' :: cs, cur, cont, n => do
    let (n, next) := n.newState
    let n ← n.addCharTransition cur c next
    addStr (c' :: cs) next cont n

/-- `Regex::CharSet` loop of `add_re` (with the repair: a repeated character is added once). -/
def addSet : List CharOrRange → List Nat → Nat → Nat → NFA → Except CompileError NFA
  | [], _, _, _, n => .ok n
  | .chr c :: items, seen, cur, cont, n =>
    if seen.contains c then addSet items seen cur cont n
    else do
      let n ← n.addCharTransition cur c cont
      addSet items (c :: seen) cur cont n
  | .rng s e :: items, seen, cur, cont, n =>
    addSet items seen cur cont (n.addRangeTransition cur s e cont)

/-- `add_re` on a variable-free regex (variables are substituted first, see `inlineVars`). -/
def addRe : Regex → Nat → Nat → NFA → Except CompileError NFA
  | .builtin name, cur, cont, n =>
    match builtinRanges name with
    | none => .error (.unknownBuiltin name)
    | some rs => .ok (n.addRangeTransitions cur (builtinRangeMap rs) cont)
  | .var name, _, _, _ => .error (.unboundVar name)
  | .chr c, cur, cont, n => n.addCharTransition cur c cont
  | .str cs, cur, cont, n => addStr cs cur cont n
  | .set items, cur, cont, n => addSet items [] cur cont n
  | .star r, cur, cont, n => do
    let (n, reInit) := n.newState
    let (n, reCont) := n.newState
    let n ← addRe r reInit reCont n
    let n ← n.addEmptyTransition cur cont
    let n ← n.addEmptyTransition cur reInit
    let n ← n.addEmptyTransition reCont cont
    n.addEmptyTransition reCont reInit
  | .plus r, cur, cont, n => do
    let (n, reInit) := n.newState
    let (n, reCont) := n.newState
    let n ← addRe r reInit reCont n
    let n ← n.addEmptyTransition cur reInit
    let n ← n.addEmptyTransition reCont cont
    n.addEmptyTransition reCont reInit
  | .opt r, cur, cont, n => do
    let (n, reInit) := n.newState
    let n ← addRe r reInit cont n
    let n ← n.addEmptyTransition cur cont
    n.addEmptyTransition cur reInit
  | .cat a b, cur, cont, n => do
    let (n, aCont) := n.newState
    let n ← addRe a cur aCont n
    addRe b aCont cont n
  | .alt a b, cur, cont, n => do
    let (n, aInit) := n.newState
    let (n, bInit) := n.newState
    let n ← addRe a aInit cont n
    let n ← addRe b bInit cont n
    let n ← n.addEmptyTransition cur aInit
    n.addEmptyTransition cur bInit
  | .any, cur, cont, n => n.addAnyTransition cur cont
  | .eoi, cur, cont, n => n.addEoiTransition cur cont
  | .diff a b, cur, cont, n => do
    let m ← regexToRangeMap (.diff a b)
    pure (n.addRangeTransitions cur m cont)

/-- `NFA::add_regex` on a variable-free regex. -/
def addRegex (n : NFA) (re : Regex) (ctx : Option Nat) (value : Nat) : Except CompileError NFA := do
  let (n, reAcc) := n.newState
  let n ← n.makeStateAccepting reAcc { value := value, ctx := ctx }
  let (n, reInit) := n.newState
  let n ← n.addEmptyTransition 0 reInit
  addRe re reInit reAcc n

/-- `compute_state_closure` worklist. Every state enters the worklist at most once, so
`fuel = n.length + states.length + 1` (see `closure`) suffices. -/
def closureAux (n : NFA) : Nat → List Nat → List Nat → List Nat
  | 0, _, cl => cl
  | _ + 1, [], cl => cl
  | fuel + 1, w :: wl, cl =>
    let (wl', cl') := (n.st w).eps.foldl
      (fun (acc : List Nat × List Nat) nx =>
        if acc.2.contains nx then acc else (nx :: acc.1, setInsert nx acc.2))
      (wl, cl)
    closureAux n fuel wl' cl'

def closure (n : NFA) (states : List Nat) : List Nat :=
  closureAux n (n.length + states.length + 1) states (setOfList states)

end NFA
end Lexgen
