/-!
# Model of `crates/lexgen/src/range_map.rs`

A range map is a list of `(start, end, value)` triples (inclusive end points), kept sorted and
disjoint by the operations. One Lean function per Rust function, same case structure and the same
order of tests. `u32` is modelled by `Nat` (all end points are code points ≤ 0x10FFFF).
-/
namespace Lexgen

abbrev RangeMap (α : Type) := List (Nat × Nat × α)

namespace RangeMap

variable {α : Type}

/-- `RangeMap::insert`. `lastEnd` is the end of the last range pushed to `new_ranges` so far
(`None` when nothing was pushed): the Rust code inspects it after the loop. The numbers (1)–(5)
are those of the comments in the overlap case of `insert` in `range_map.rs`. -/
def insertAux (merge : α → α → α) : RangeMap α → Option Nat → Nat → Nat → α → RangeMap α
  | [], lastEnd, ns, ne, v =>
    let push := match lastEnd with
      | none => true
      | some le => decide (le < ns)
    if push then [(ns, ne, v)] else []
  | (s, e, x) :: rest, _lastEnd, ns, ne, v =>
    if e < ns then
      (s, e, x) :: insertAux merge rest (some e) ns ne v
    else if s > ne then
      (ns, ne, v) :: (s, e, x) :: rest
    else
      let os := max ns s
      let oe := min ne e
      -- (1) new range before the overlap, (2) old range before the overlap
      let pre : RangeMap α :=
        if ns < os then [(ns, os - 1, v)]
        else if s < os then [(s, os - 1, x)]
        else []
      -- (3) the overlap
      let mid : RangeMap α := [(os, oe, merge x v)]
      -- (4) old range after the overlap
      if e > oe then
        pre ++ mid ++ (oe + 1, e, x) :: rest
      -- (5) new range after the overlap: handled in the next iteration
      else if ne > oe then
        pre ++ mid ++ insertAux merge rest (some oe) (oe + 1) ne v
      else
        pre ++ mid ++ rest

def insert (merge : α → α → α) (m : RangeMap α) (ns ne : Nat) (v : α) : RangeMap α :=
  insertAux merge m none ns ne v

/-- Termination measure component of `insertRanges`: 1 while the two heads overlap with different
starts (the next iteration then aligns them). -/
def startsDiffer {β : Type} : RangeMap α → RangeMap β → Nat
  | (s1, _, _) :: _, (s2, _, _) :: _ => if s1 = s2 then 0 else 1
  | _, _ => 0

theorem startsDiffer_le {β : Type} (l1 : RangeMap α) (l2 : RangeMap β) :
    startsDiffer l1 l2 ≤ 1 := by
  unfold startsDiffer
  split
  · split <;> decide
  · exact Nat.zero_le 1

/-- Termination measure component of `removeRanges`: 0 once the removed head lies wholly before
the old head. -/
def removedNotBefore {β : Type} : RangeMap α → RangeMap β → Nat
  | (s, _, _) :: _, (_, re, _) :: _ => if re < s then 0 else 1
  | _, _ => 0

theorem removedNotBefore_le {β : Type} (l1 : RangeMap α) (l2 : RangeMap β) :
    removedNotBefore l1 l2 ≤ 1 := by
  unfold removedNotBefore
  split
  · split <;> decide
  · exact Nat.zero_le 1

/-- `RangeMap::insert_ranges`: merge of two sorted range lists. The Rust loop mutates the heads
in place; here the updated head is consed back. -/
def insertRanges (merge : α → α → α) : RangeMap α → RangeMap α → RangeMap α
  | [], [] => []
  | (r1 :: rest1), [] => r1 :: rest1
  | [], (r2 :: rest2) => r2 :: rest2
  | (s1, e1, v1) :: rest1, (s2, e2, v2) :: rest2 =>
    if e1 < s2 then
      (s1, e1, v1) :: insertRanges merge rest1 ((s2, e2, v2) :: rest2)
    else if e2 < s1 then
      (s2, e2, v2) :: insertRanges merge ((s1, e1, v1) :: rest1) rest2
    else
      let os := max s1 s2
      let oe := min e1 e2
      if s1 < s2 then
        (s1, os - 1, v1) :: insertRanges merge ((os, e1, v1) :: rest1) ((s2, e2, v2) :: rest2)
      else if s2 < s1 then
        (s2, os - 1, v2) :: insertRanges merge ((s1, e1, v1) :: rest1) ((os, e2, v2) :: rest2)
      else
        let merged := (os, oe, merge v1 v2)
        if e1 < e2 then
          merged :: insertRanges merge rest1 ((oe + 1, e2, v2) :: rest2)
        else if e2 < e1 then
          merged :: insertRanges merge ((oe + 1, e1, v1) :: rest1) rest2
        else
          merged :: insertRanges merge rest1 rest2
termination_by l1 l2 => 2 * (l1.length + l2.length) + startsDiffer l1 l2
decreasing_by
  all_goals simp_wf
  · have := startsDiffer_le rest1 ((s2, e2, v2) :: rest2); omega
  · have := startsDiffer_le ((s1, e1, v1) :: rest1) rest2; omega
  · have h1 : max s1 s2 = s2 := by omega
    have h2 : ¬ s1 = s2 := by omega
    simp [startsDiffer, h1, h2]
  · have h1 : s1 = max s1 s2 := by omega
    have h2 : ¬ s1 = s2 := by omega
    simp [startsDiffer, ← h1, h2]
  · have := startsDiffer_le rest1 ((min e1 e2 + 1, e2, v2) :: rest2); omega
  · have := startsDiffer_le ((min e1 e2 + 1, e1, v1) :: rest1) rest2; omega
  · have := startsDiffer_le rest1 rest2; omega

/-- `RangeMap::remove_ranges` (with the repair of case (1): a fully covered old range is dropped
without advancing the removed range). The numbers (1)–(3) are those of the comments in
`remove_ranges` in `range_map.rs`. -/
def removeRanges {β : Type} : RangeMap α → RangeMap β → RangeMap α
  | [], _ => []
  | (r :: rest), [] => r :: rest
  | (s, e, v) :: rest, (rs, re, rv) :: rrest =>
    if e < rs then
      (s, e, v) :: removeRanges rest ((rs, re, rv) :: rrest)
    else if re < s then
      removeRanges ((s, e, v) :: rest) rrest
    else
      let os := max s rs
      let oe := min e re
      -- (1) overlap starts at the left end of the old range
      if os = s then
        if oe = e then
          removeRanges rest ((rs, re, rv) :: rrest)
        else
          removeRanges ((oe + 1, e, v) :: rest) rrest
      -- (2) overlap ends at the right end of the old range
      else if oe = e then
        (s, os - 1, v) :: removeRanges rest ((rs, re, rv) :: rrest)
      -- (3) overlap in the middle of the old range
      else
        (s, os - 1, v) :: removeRanges ((oe + 1, e, v) :: rest) ((rs, re, rv) :: rrest)
termination_by l1 l2 => 2 * (l1.length + l2.length) + removedNotBefore l1 l2
decreasing_by
  all_goals simp_wf
  · have := removedNotBefore_le rest ((rs, re, rv) :: rrest); omega
  · have := removedNotBefore_le ((s, e, v) :: rest) rrest
    have h : re < s := by omega
    simp [removedNotBefore, h] at *; omega
  · have := removedNotBefore_le rest ((rs, re, rv) :: rrest); omega
  · have := removedNotBefore_le ((min e re + 1, e, v) :: rest) rrest; omega
  · have := removedNotBefore_le rest ((rs, re, rv) :: rrest); omega
  · have h1 : re < min e re + 1 := by omega
    have h2 : ¬ re < s := by omega
    simp [removedNotBefore, h1, h2]

/-- `RangeMap::map` -/
def mapVals {β : Type} (f : α → β) (m : RangeMap α) : RangeMap β :=
  m.map fun (s, e, v) => (s, e, f v)

/-- Value at a code point (first range containing it). -/
def lookup : RangeMap α → Nat → Option α
  | [], _ => none
  | (s, e, v) :: rest, c => if s ≤ c ∧ c ≤ e then some v else lookup rest c

/-- `debug_assert` of `from_non_overlapping_sorted_ranges`: consecutive ranges satisfy
`r1.end < r2.start`. -/
def sortedNonOverlapping : RangeMap α → Bool
  | [] => true
  | [_] => true
  | (_, e1, _) :: (s2, e2, v2) :: rest => decide (e1 < s2) && sortedNonOverlapping ((s2, e2, v2) :: rest)

end RangeMap
end Lexgen
