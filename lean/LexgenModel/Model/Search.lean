import LexgenModel.Model.Runtime
/-!
# Model of the generated membership tests (`dfa/codegen.rs`, `dfa/codegen/search_table.rs`)

Range transitions of a state are compiled into `match` arms: every `Accept` range gets its own
guard arm, ranges with the same next state share one arm whose guard is a chain of range checks
(`||`) when there are at most `MAX_GUARD_SIZE` of them and a binary search in a static table
otherwise. `slice::binary_search_by` is modelled by its library implementation.
-/
namespace Lexgen

/-- `inclusive_range_contains` / `x == c` chain joined by `||` -/
def guardChain (ranges : List (Nat × Nat)) (c : Nat) : Bool :=
  ranges.any fun r => if r.1 = r.2 then c == r.1 else decide (r.1 ≤ c) && decide (c ≤ r.2)

/-- the comparator the generated `binary_search` passes to `binary_search_by` -/
def cmpRange (c : Nat) (r : Nat × Nat) : Ordering :=
  if c > r.1 then (if c ≤ r.2 then .eq else .lt)
  else if c = r.1 then .eq
  else .gt

/-- the `while size > 1` loop of `slice::binary_search_by` -/
def bsLoop (table : List (Nat × Nat)) (c : Nat) : Nat → Nat → Nat → Nat
  | 0, base, _ => base
  | fuel + 1, base, size =>
    if size > 1 then
      let half := size / 2
      let mid := base + half
      let base' := if cmpRange c (table.getD mid (0, 0)) == .gt then base else mid
      bsLoop table c fuel base' (size - half)
    else base

/-- generated `binary_search(c, &TABLE)` = `binary_search_by(..).is_ok()` -/
def binarySearch (table : List (Nat × Nat)) (c : Nat) : Bool :=
  if table.isEmpty then false
  else cmpRange c (table.getD (bsLoop table c table.length 0 table.length) (0, 0)) == .eq

/-- guard of the shared arm of a group of ranges -/
def rangeGuard (maxGuard : Nat) (ranges : List (Nat × Nat)) (c : Nat) : Bool :=
  if ranges.length > maxGuard then binarySearch ranges c else guardChain ranges c

/-- the ranges of a state that lead to state `t`, in table order -/
def rangesTo (ranges : RangeMap Trans) (t : Nat) : List (Nat × Nat) :=
  ranges.filterMap fun r => match r.2.2 with | .goto t' => if t' = t then some (r.1, r.2.1) else none | .accept _ => none

/-- distinct `goto` targets of the range transitions -/
def rangeTargets (ranges : RangeMap Trans) : List Nat :=
  (ranges.filterMap fun r => match r.2.2 with | .goto t => some t | .accept _ => none).eraseDups

/-- The range arms as generated: `Accept` ranges first (one guard arm each, in table order), then
one arm per next state; the first arm whose guard holds is taken. -/
def armLookup (maxGuard : Nat) (ranges : RangeMap Trans) (c : Nat) : Option Trans :=
  match ranges.find? (fun r => match r.2.2 with | .accept _ => decide (r.1 ≤ c) && decide (c ≤ r.2.1) | .goto _ => false) with
  | some r => some r.2.2
  | none =>
    ((rangeTargets ranges).find? fun t => rangeGuard maxGuard (rangesTo ranges t) c).map Trans.goto

end Lexgen
