import LexgenModel.Proofs.NextMore
import LexgenModel.Proofs.EndToEnd
/-!
# C15 — A cloned lexer continues identically and independently

All run-time state is the by-value `LState` (the model has no other state), so a clone is an equal
state; equal states have equal futures, and the items after `m` calls are exactly those of the
state reached after `m` calls.
-/
namespace Lexgen
variable {σ τ ε : Type}

theorem C15_stream_of_state (cfg : Config σ τ ε) (m n : Nat) (st : LState σ) (h : ∀ x ∈ (runN cfg m st).1, x ≠ none) :
    runN cfg (m + n) st = ((runN cfg m st).1 ++ (runN cfg n (runN cfg m st).2).1, (runN cfg n (runN cfg m st).2).2) :=
  runN_add cfg m n st h

/-- For every well-formed definition the model compiles, at every clone point `m` (from a fresh lexer or any state at a lexeme start: after an error,
after a rule-set switch, after the final `None`), the remaining stream of the original equals the stream of the clone, for any number `n` of further
calls — no side condition: `next()` never runs out of fuel on a compiled machine. The clone is again at a lexeme start, so the statement applies to
clones of clones. -/
theorem C15_clone_compiled (items : LexerDef) (c : Compiled) (h : compileLexer items = .ok c) (hok : DefOK items)
    (actions : Nat → Action σ τ ε) (width : Nat → Nat) (input : Option (List Nat)) (st : LState σ)
    (hr : Ready (c.config actions width input) st) (m n : Nat) :
    runN (c.config actions width input) (m + n) st =
      ((runN (c.config actions width input) m st).1 ++ (runN (c.config actions width input) n (runN (c.config actions width input) m st).2).1,
       (runN (c.config actions width input) n (runN (c.config actions width input) m st).2).2) ∧
    Ready (c.config actions width input) (runN (c.config actions width input) m st).2 := by
  have hm := compileLexer_machineOK items c h hok actions width input
  exact ⟨runN_add _ m n st (runN_items_le _ hm st hr m).2.1, (runN_items_le _ hm st hr m).2.2⟩

/-- a clone taken after the final `None` keeps returning `None` (fusedness, C05), like the original -/
theorem C15_clone_after_none (cfg : Config σ τ ε) (st : LState σ) (h : st.done = true) (n : Nat) :
    (runN cfg n st).1 = List.replicate n (some none) ∧ (runN cfg n st).2 = st := by
  rw [NextMore.runN_done cfg n st h]
  exact ⟨rfl, rfl⟩

/-- Two lexer values driven by one schedule: `true` = a call of `next()` on the first, `false` = on the second. `none` = some call ran out of fuel
(never, on a compiled machine: see the theorem). -/
def runSched (cfg : Config σ τ ε) : List Bool → LState σ → LState σ →
    Option (List (Option (Item τ ε)) × List (Option (Item τ ε)) × LState σ × LState σ)
  | [], a, b => some ([], [], a, b)
  | true :: s, a, b =>
    match next cfg a with
    | none => none
    | some (item, a') =>
      match runSched cfg s a' b with
      | none => none
      | some (xs, ys, a'', b'') => some (item :: xs, ys, a'', b'')
  | false :: s, a, b =>
    match next cfg b with
    | none => none
    | some (item, b') =>
      match runSched cfg s a b' with
      | none => none
      | some (xs, ys, a'', b'') => some (xs, item :: ys, a'', b'')

/-- "each unaffected by calls made on the other", for EVERY schedule: however the calls on the two values are interleaved, each value yields exactly
the stream it yields when run alone for as many calls as the schedule gives it, and ends in the same state. -/
theorem C15_interleaving (cfg : Config σ τ ε) (hm : MachineOK cfg) (sched : List Bool) (a b : LState σ)
    (ha : Ready cfg a) (hb : Ready cfg b) :
    ∃ xs ys a' b', runSched cfg sched a b = some (xs, ys, a', b') ∧
      runN cfg (sched.count true) a = (xs.map some, a') ∧ runN cfg (sched.count false) b = (ys.map some, b') ∧
      Ready cfg a' ∧ Ready cfg b' := by
  induction sched generalizing a b with
  | nil => exact ⟨[], [], a, b, rfl, rfl, rfl, ha, hb⟩
  | cons c s ih =>
    cases c with
    | true =>
      obtain ⟨⟨item, a1⟩, hn⟩ := next_total cfg hm a ha
      obtain ⟨xs, ys, a', b', h1, h2, h3, h4, h5⟩ := ih a1 b (next_ready cfg hm a ha item a1 hn) hb
      refine ⟨item :: xs, ys, a', b', ?_, ?_, ?_, h4, h5⟩
      · simp only [runSched, hn, h1]
      · rw [List.count_cons_self, NextMore.runN_succ_some cfg _ a item a1 hn, h2]; rfl
      · rw [List.count_cons_of_ne (by decide)]; exact h3
    | false =>
      obtain ⟨⟨item, b1⟩, hn⟩ := next_total cfg hm b hb
      obtain ⟨xs, ys, a', b', h1, h2, h3, h4, h5⟩ := ih a b1 ha (next_ready cfg hm b hb item b1 hn)
      refine ⟨xs, item :: ys, a', b', ?_, ?_, ?_, h4, h5⟩
      · simp only [runSched, hn, h1]
      · rw [List.count_cons_of_ne (by decide)]; exact h2
      · rw [List.count_cons_self, NextMore.runN_succ_some cfg _ b item b1 hn, h3]; rfl

/-- The same for the original and its clone (`b = a`) of every compiled well-formed definition, at every clone point. -/
theorem C15_interleaving_compiled (items : LexerDef) (c : Compiled) (h : compileLexer items = .ok c) (hok : DefOK items)
    (actions : Nat → Action σ τ ε) (width : Nat → Nat) (input : Option (List Nat)) (st : LState σ)
    (hr : Ready (c.config actions width input) st) (sched : List Bool) :
    ∃ xs ys a' b', runSched (c.config actions width input) sched st st = some (xs, ys, a', b') ∧
      runN (c.config actions width input) (sched.count true) st = (xs.map some, a') ∧
      runN (c.config actions width input) (sched.count false) st = (ys.map some, b') :=
  let ⟨xs, ys, a', b', h1, h2, h3, _, _⟩ :=
    C15_interleaving _ (compileLexer_machineOK items c h hok actions width input) sched st st hr hr
  ⟨xs, ys, a', b', h1, h2, h3⟩

end Lexgen
