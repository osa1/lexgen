import LexgenModel.Proofs.TableGen
/-!
# C18 — The table generator emits exact, maximal, sorted ranges for any predicate
-/
namespace Lexgen

/-- For every predicate and every upper bound: the output is canonical (scalar end points,
sorted, disjoint, separated by a non-satisfying scalar — also next to the surrogate gap and at the
upper bound), covers exactly the satisfying scalar values, and is the only such list. -/
theorem C18_generator_exact (f : Nat → Bool) (max : Nat) :
    Canon max (generateRanges f max) ∧
    (∀ c, c ≤ max → isScalar c = true → (f c = true ↔ covers (generateRanges f max) c)) ∧
    (∀ l, Canon max l → (∀ c, c ≤ max → isScalar c = true → (f c = true ↔ covers l c)) → l = generateRanges f max) :=
  ⟨generateRanges_canon f max, fun c hc hs => generateRanges_covers f max c hc hs,
   fun l hl h => generateRanges_unique f max l hl h⟩

/-- non-vacuity: a run whose last range is closed by the upper bound -/
example : generateRanges (fun c => c % 2 == 0 || c ≥ 5) 8 = [(0, 0), (2, 2), (4, 8)] := rfl

end Lexgen
