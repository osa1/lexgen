import LexgenModel.Proofs.CtxFn
import LexgenModel.Proofs.MaxMunch
import LexgenModel.Proofs.CtxLang
import LexgenModel.Proofs.ContextNumbering
/-!
# C04 — Right context gates a match without consuming input
-/
namespace Lexgen
variable {σ τ ε : Type}

/-- The generated context function accepts exactly when the context automaton accepts some prefix
of what follows (end-of-input visible to `$`), for any context automaton. -/
theorem C04_context_function (d : DFA Nat) (rest : List Nat) : ctxRun d 0 rest = true ↔ CtxAccepts d rest :=
  ctxRun_iff d rest

/-- A candidate whose context fails is treated as if the rule had not matched there: the action
selected from an accept list is that of the first entry without context or whose context holds. -/
theorem C04_gate (ok : Nat → Bool) (accs : List Acc) (a : Nat) :
    firstOK ok accs = some a ↔
      ∃ pre x post, accs = pre ++ x :: post ∧ x.value = a ∧
        (x.ctx = none ∨ ∃ i, x.ctx = some i ∧ ok i = true) ∧
        ∀ y ∈ pre, ∃ i, y.ctx = some i ∧ ok i = false :=
  firstOK_spec ok accs a

/-- When every entry's context fails nothing is selected at that length, so shorter matches
remain eligible (the scan then rewinds to the saved shorter match, `C01_maximal_munch`). -/
theorem C04_all_fail (ok : Nat → Bool) (accs : List Acc) :
    firstOK ok accs = none ↔ ∀ y ∈ accs, ∃ i, y.ctx = some i ∧ ok i = false :=
  firstOK_none ok accs

/-- The context is evaluated on what follows the lexeme and is not consumed: the lexer state after
a match of length `k` is the start state advanced by exactly `k` characters, whatever the context
read. -/
theorem C04_not_consumed (cfg : Config σ τ ε) (ns : Nat → Option Nat)
    (htargets : targetsOK cfg.dfa = true) (hns : DispatchOK cfg.dfa cfg.inl ns)
    (s : Nat) (st : LState σ) (hlast : st.last = none) (hdone : st.done = false) (a : Nat) (st' : LState σ)
    (h : scanPlain cfg ns s st.iter st = .act a st') :
    ∃ k e n, Cand cfg s st.iter k a e ∧ st' = { advanceBy cfg.width st k with last := none, done := e, state := n } := by
  obtain ⟨k, e, hc, _, n, hn⟩ := scanPlain_act cfg ns htargets hns s st hlast hdone a st' h
  exact ⟨k, e, n, hc, hn⟩

/-- Language level: the automaton the macro builds for a right context (`new_right_ctx`: Thompson +
subset construction of the context regex alone) makes the generated context function accept exactly
when the context regex denotes some prefix of the rest of the input followed by the end-of-input symbol
— i.e. `$` inside a context sees the end of input, and nothing is consumed. -/
theorem C04_context_language (cre : Regex) (hp : regexPiecesOK cre) (ht : tailEoi cre) (nfa : NFA)
    (hn : NFA.new.addRegex cre none 0 = .ok nfa) (d : DFA Nat) (hd : nfaToDfa nfa = some d) (rest : List Nat) :
    ctxRun d 0 rest = true ↔ CtxLang cre rest :=
  ctxDfa_lang cre hp ht nfa hn d hd rest

/-- In a compiled definition the `j`-th right context of a rule set whose first context has number
`k` is realised by right-context function number `k + j` (the number stored in the rule's accept entry). -/
theorem C04_context_numbering (items : LexerDef) (c : Compiled) (h : compileLexer items = .ok c)
    (name : String) (rs : List RuleOrBinding) (b : Bindings) (k : Nat)
    (hmem : (name, rs, b, k) ∈ allRuleSets items) :
    ∃ cres, coreCtxs rs b = some cres ∧ k + cres.length ≤ c.ctxs.length ∧
      ∀ j (hj : j < cres.length), regexPiecesOK cres[j] → tailEoi cres[j] →
        ∀ rest, ctxRun (c.ctxs.getD (k + j) []) 0 rest = true ↔ CtxLang cres[j] rest :=
  compileLexer_ctxs items c h name rs b k hmem

/-- **The numbering of the right-context automata is irrelevant; equal contexts may share an automaton.** If the accept entries of a compiled
machine are renumbered by ANY `g` (not necessarily injective) and the automaton found under the new number decides, on every remaining input, what
the automaton under the old number decided, then the generated lexers behave identically — same items and same lexer state after any number of
calls from any state. (The generated code uses a context number only to call the context function.) This licenses comparing the
implementation's context numbers with the model's up to renaming. -/
theorem C04_context_numbering_irrelevant (g : Nat → Nat) (c c' : Compiled)
    (hdfa : c'.dfa = c.dfa.map (DState.mapCTrans g)) (hent : c'.entries = c.entries)
    (hsame : ∀ i iter, ctxRun (c'.ctxs.getD (g i) []) 0 iter = ctxRun (c.ctxs.getD i []) 0 iter)
    (acts : Nat → Action σ τ ε) (width : Nat → Nat) (input : Option (List Nat)) (n : Nat) (st : LState σ) :
    runN (c'.config acts width input) n st = runN (c.config acts width input) n st :=
  compiled_ctx_numbering_irrelevant g c c' hdfa hent hsame acts width input n st

end Lexgen
