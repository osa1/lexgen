import LexgenModel.Proofs.NextMore
import LexgenModel.Proofs.EndToEnd
import LexgenModel.Proofs.DumpedMachine
/-!
# C09 — Every next() call terminates, makes progress, and never panics (model part)
-/
namespace Lexgen
variable {σ τ ε : Type}

/-- Termination: on a well-formed machine at a lexeme boundary the loop of `next()` finishes
within `|iter| + 2` rounds and its `match` is exhaustive (the model returns a result). -/
theorem C09_terminates (cfg : Config σ τ ε) (hm : MachineOK cfg) (st : LState σ) (hr : Ready cfg st) :
    ∃ r, next cfg st = some r :=
  next_total cfg hm st hr

/-- Progress: every item accounts for at least one input character or for the end-of-input event. -/
theorem C09_progress (cfg : Config σ τ ε) (hm : MachineOK cfg) (st : LState σ) (hr : Ready cfg st)
    (item : Item τ ε) (st' : LState σ) (h : next cfg st = some (some item, st')) :
    ∃ k, st'.iter = st.iter.drop k ∧ (0 < k ∨ st'.done = true) :=
  next_progress cfg hm st hr item st' h

/-- A lexer over `n` characters yields at most `n + 1` items, however many times `next()` is
called; no call runs out of fuel. -/
theorem C09_item_bound (cfg : Config σ τ ε) (hm : MachineOK cfg) (st : LState σ) (hr : Ready cfg st) (n : Nat) :
    itemCount (runN cfg n st).1 ≤ st.iter.length + 1 ∧ (∀ x ∈ (runN cfg n st).1, x ≠ none) :=
  ⟨(runN_items_le cfg hm st hr n).1, (runN_items_le cfg hm st hr n).2.1⟩

/-- Termination, progress and the item bound for EVERY well-formed definition the model compiles: the
hypothesis "no rule matches the empty string" enters through `DefOK` (it makes every rule-set entry
non-accepting); with a nullable rule the generated `next()` really loops (observed on the real macro). -/
theorem C09_compiled (items : LexerDef) (c : Compiled) (h : compileLexer items = .ok c) (hok : DefOK items)
    (actions : Nat → Action σ τ ε) (width : Nat → Nat) (input : Option (List Nat)) (st : LState σ)
    (hr : Ready (c.config actions width input) st) :
    (∃ r, next (c.config actions width input) st = some r) ∧
    (∀ n, itemCount (runN (c.config actions width input) n st).1 ≤ st.iter.length + 1 ∧
      ∀ x ∈ (runN (c.config actions width input) n st).1, x ≠ none) :=
  have hm := compileLexer_machineOK items c h hok actions width input
  ⟨next_total _ hm st hr, fun n => ⟨(runN_items_le _ hm st hr n).1, (runN_items_le _ hm st hr n).2.1⟩⟩

/-- a freshly constructed lexer is `Ready` (state 0 = entry of `Init` / of the unnamed rule set) -/
theorem C09_initial_ready (cfg : Config σ τ ε) (user : σ) (chars : List Nat) : Ready cfg (initState user chars) :=
  initState_ready cfg user chars

/-- The same for the machine the REAL macro dumped: `stageOK` (evaluated by `lexmodel` on every dumped machine) contains the well-formedness checker,
whose verdict implies `MachineOK` (`C01_checker_establishes_hypotheses`); so on that machine too every `next()` terminates, makes progress and the
item bound holds — whatever the inlining policy, state numbering and table shapes of the macro that produced it. -/
theorem C09_real_machine (c : Compiled) (dfa : DFA Trans) (entries : List (String × Nat)) (ctxs : List (DFA Nat)) (inl : List Nat)
    (hs : stageOK c dfa entries ctxs inl = true)
    (actions : Nat → Action σ τ ε) (width : Nat → Nat) (input : Option (List Nat)) (st : LState σ)
    (hr : Ready { dfa := dfa, ctxs := ctxs, entries := entries, inl := inl, actions := actions, width := width, input := input } st) :
    (∃ r, next { dfa := dfa, ctxs := ctxs, entries := entries, inl := inl, actions := actions, width := width, input := input } st = some r) ∧
    (∀ n, itemCount (runN { dfa := dfa, ctxs := ctxs, entries := entries, inl := inl, actions := actions, width := width, input := input } n st).1
        ≤ st.iter.length + 1 ∧
      ∀ x ∈ (runN { dfa := dfa, ctxs := ctxs, entries := entries, inl := inl, actions := actions, width := width, input := input } n st).1, x ≠ none) := by
  obtain ⟨_, _, _, _, _, hwf, _, _⟩ := Dumped.stageOK_unpack c dfa entries ctxs inl hs
  have hm : MachineOK ({ dfa := dfa, ctxs := ctxs, entries := entries, inl := inl, actions := actions, width := width, input := input } : Config σ τ ε) :=
    machineOK_of_checker _ ctxs.length hwf
  exact ⟨next_total _ hm st hr, fun n => ⟨(runN_items_le _ hm st hr n).1, (runN_items_le _ hm st hr n).2.1⟩⟩

end Lexgen
