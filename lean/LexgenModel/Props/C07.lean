import LexgenModel.Proofs.MaxMunch
import LexgenModel.Proofs.NextProtocol
import LexgenModel.Proofs.RefRefine
/-!
# C07 — Errors are raised exactly when nothing matches and point at the lexeme start
-/
namespace Lexgen
variable {σ τ ε : Type}

/-- An `InvalidToken` from the state code means no match exists at all, and its location is the
start of the current match. -/
theorem C07_invalid_only_if_no_match (cfg : Config σ τ ε) (hm : MachineOK cfg) (s : Nat) (st : LState σ)
    (hlast : st.last = none) (loc : Loc) (st' : LState σ)
    (h : scan cfg (dispatch (stateArms cfg.dfa cfg.inl)) s st.iter st = .err loc st') :
    (∀ k a e, ¬ Cand cfg s st.iter k a e) ∧ loc = st.curStart := by
  rw [scan_eq_scanPlain_of_machineOK cfg hm s st hlast] at h
  have := scanPlain_err cfg _ hm.targets (dispatchOK_of_machineOK cfg hm) s st hlast loc st' h
  exact ⟨this.1, this.2.1⟩

/-- Conversely a match is never turned into an error: when a match exists the state code calls an
action (it cannot return `.err`). -/
theorem C07_match_is_not_error (cfg : Config σ τ ε) (hm : MachineOK cfg) (s : Nat) (st : LState σ)
    (hlast : st.last = none) (k a : Nat) (e : Bool) (hc : Cand cfg s st.iter k a e) (loc : Loc) (st' : LState σ) :
    scan cfg (dispatch (stateArms cfg.dfa cfg.inl)) s st.iter st ≠ .err loc st' := by
  intro h
  exact (C07_invalid_only_if_no_match cfg hm s st hlast loc st' h).1 k a e hc

/-- A custom error carries the action's payload unchanged and is located at the match start taken
before the match is reset. -/
theorem C07_custom_location (cfg : Config σ τ ε) (a : Nat) (st : LState σ) (l : Loc) (e : ε) (st' : LState σ)
    (h : callAction cfg a st = .ret (some (.custom l e)) st') :
    ∃ eff, eff = (cfg.actions a).run (mkView cfg a st) ∧ eff.res = some (.error e) ∧
      l = (if eff.reset then st.curEnd else st.curStart) := by
  rw [callAction_spec cfg a st rfl] at h
  refine ⟨_, rfl, ?_⟩
  split at h <;> cases h
  exact ⟨‹_›, rfl⟩

/-- Errors at the language level: every call is a step of the reference lexer; its `invalid` constructor fires only when NO rule
of the active rule set matches any prefix of the remaining input (and it is not the end of the stream), reports the start of the
current match and leaves `ErrResume`; whenever some rule matches, `ret`/`cont` run that rule's action instead. -/
theorem C07_refines_reference (items : LexerDef) (c : Compiled) (h : compileLexer items = .ok c) (hok : DefOK items)
    (ctxAt : Nat → Regex) (hnum : CtxNumbering items ctxAt)
    (actions : Nat → Action σ τ ε) (width : Nat → Nat) (input : Option (List Nat))
    (st : LState σ) (hr : Ready (c.config actions width input) st)
    (r : Option (Item τ ε) × LState σ) (hn : next (c.config actions width input) st = some r) :
    RefNext items c ctxAt (c.config actions width input) st r :=
  next_refines_ref items c h hok ctxAt hnum actions width input st hr r hn

end Lexgen
