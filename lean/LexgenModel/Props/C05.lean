import LexgenModel.Proofs.NextProtocol
import LexgenModel.Proofs.Accounting
import LexgenModel.Proofs.RefRefine
/-!
# C05 — End-of-input protocol (model part): fused stream, `$` matches via the end-of-input symbol
-/
namespace Lexgen
variable {σ τ ε : Type}

/-- Once end-of-input has been handled, every call returns `None` and changes nothing. -/
theorem C05_fused (cfg : Config σ τ ε) (st : LState σ) (h : st.done = true) : next cfg st = some (none, st) :=
  next_done cfg st h

/-- A match through `$` exists only when all characters are read, and is preferred to the same
lexeme without it (`candLe` puts the end-of-input match on top at full length). -/
theorem C05_eoi_only_at_end (cfg : Config σ τ ε) (s : Nat) (iter : List Nat) (k a : Nat)
    (h : Cand cfg s iter k a true) : k = iter.length :=
  cand_eoi_len h

/-- The end-of-input protocol at the language level: every call is a step of the reference lexer `RefNext`, whose
constructors are exactly the protocol — `done` (fused stream), `ret`/`cont` with `viaEoi` (a match through `$` is preferred
at full length and sets `done`), `eof` (nothing matches, input exhausted, first rule set active: `None`), `invalid` (any other
rule set active at the end: `InvalidToken`). -/
theorem C05_refines_reference (items : LexerDef) (c : Compiled) (h : compileLexer items = .ok c) (hok : DefOK items)
    (ctxAt : Nat → Regex) (hnum : CtxNumbering items ctxAt)
    (actions : Nat → Action σ τ ε) (width : Nat → Nat) (input : Option (List Nat))
    (st : LState σ) (hr : Ready (c.config actions width input) st)
    (r : Option (Item τ ε) × LState σ) (hn : next (c.config actions width input) st = some r) :
    RefNext items c ctxAt (c.config actions width input) st r :=
  next_refines_ref items c h hok ctxAt hnum actions width input st hr r hn

/-- **Accounting.** Over any number of calls from a fresh lexer on a well-formed machine: no call is stuck; every returned token/error has a
character index span that begins at or after the position where the previous item ended and ends at the position its call reached
(`0 ≤ i₁ ≤ j₁ ≤ i₂ ≤ j₂ ≤ … ≤ q ≤ |input|`); once `None` has been returned only `None`s follow; and if some call returned `None` the whole
input was consumed — end-of-input is handled exactly once, when everything has been read. -/
theorem C05_accounting (cfg : Config σ τ ε) (hm : MachineOK cfg) (user : σ) (input : List Nat) (n : Nat) :
    ∃ start q, AtPos cfg.width input (runN cfg n (initState user input)).2 start q ∧
      Ordered cfg.width input 0 (runN cfg n (initState user input)).1 q ∧
      (some none ∈ (runN cfg n (initState user input)).1 → q = input.length) :=
  runN_spans_ordered cfg hm user input n

end Lexgen
