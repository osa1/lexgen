import LexgenModel.Proofs.NextLocations
import LexgenModel.Proofs.RefRefine
import LexgenModel.Proofs.ActionNumbering
/-!
# C10 — Semantic-action protocol
-/
namespace Lexgen
variable {σ τ ε : Type}

/-- `re,` behaves as `reset_match(); continue_()`. -/
theorem C10_sugar_skip (v : View σ) :
    (Action.skip : Action σ τ ε).run v = { user := v.user, reset := true, switchTo := none, res := none } := rfl

/-- `re = t` behaves as `return_(t)`. -/
theorem C10_sugar_simple (t : τ) (v : View σ) :
    (Action.simple t : Action σ τ ε).run v = { user := v.user, reset := false, switchTo := none, res := some (.ok t) } := rfl

/-- `continue_()`: the match keeps accumulating (its start moves only on `reset_match()`), the
user state is the action's, the lexer goes back to the entry state of the (possibly switched)
rule set. -/
theorem C10_continue (cfg : Config σ τ ε) (a : Nat) (st : LState σ)
    (hres : ((cfg.actions a).run (mkView cfg a st)).res = none) :
    ∃ st', callAction cfg a st = .cont st' ∧
      st'.user = ((cfg.actions a).run (mkView cfg a st)).user ∧
      st'.curStart = (if ((cfg.actions a).run (mkView cfg a st)).reset then st.curEnd else st.curStart) ∧
      st'.curEnd = st.curEnd ∧ st'.iter = st.iter ∧ st'.state = st'.initial ∧
      st'.initial = (match ((cfg.actions a).run (mkView cfg a st)).switchTo with
        | some r => switchNum cfg r | none => st.initial) := by
  rw [callAction_spec cfg a st rfl, hres]
  refine ⟨_, rfl, rfl, rfl, rfl, rfl, rfl, ?_⟩
  show Option.elim _ _ _ = _
  cases ((cfg.actions a).run (mkView cfg a st)).switchTo <;> rfl

/-- `return_(t)` / `switch_and_return`: the token carries the accumulated span, then the match is
reset. -/
theorem C10_return (cfg : Config σ τ ε) (a : Nat) (st : LState σ) (t : τ)
    (hres : ((cfg.actions a).run (mkView cfg a st)).res = some (.ok t)) :
    ∃ st', callAction cfg a st =
        .ret (some (.tok (if ((cfg.actions a).run (mkView cfg a st)).reset then st.curEnd else st.curStart) t st.curEnd)) st' ∧
      st'.curStart = st.curEnd ∧ st'.curEnd = st.curEnd ∧ st'.state = st'.initial ∧
      st'.user = ((cfg.actions a).run (mkView cfg a st)).user := by
  rw [callAction_spec cfg a st rfl, hres]
  exact ⟨_, rfl, rfl, rfl, rfl, rfl⟩

/-- Actions are only ever handed exact views (span since the last reset, its text, the first
unconsumed character): see `C06_action_views`; restated here for the action protocol. -/
theorem C10_views (cfg cfg' : Config σ τ ε) (hm : MachineOK cfg) (input : List Nat) (st : LState σ)
    (hb : Boundary cfg.width input st)
    (hsame : cfg'.dfa = cfg.dfa ∧ cfg'.ctxs = cfg.ctxs ∧ cfg'.entries = cfg.entries ∧ cfg'.width = cfg.width ∧ cfg'.input = cfg.input ∧
      cfg'.inl = cfg.inl)
    (hact : ∀ a v, ViewOK cfg input v → (cfg.actions a).run v = (cfg'.actions a).run v) :
    next cfg st = next cfg' st :=
  next_views cfg cfg' hm input st hb hsame hact

/-- The semantic-action protocol at the language level: exactly one action runs per selected match (`RefNext.ret`/`cont` call
`callAction` on the state advanced by exactly the lexeme), in input order, none for abandoned candidates; `cont` re-selects from
the state the action left. -/
theorem C10_refines_reference (items : LexerDef) (c : Compiled) (h : compileLexer items = .ok c) (hok : DefOK items)
    (ctxAt : Nat → Regex) (hnum : CtxNumbering items ctxAt)
    (actions : Nat → Action σ τ ε) (width : Nat → Nat) (input : Option (List Nat))
    (st : LState σ) (hr : Ready (c.config actions width input) st)
    (r : Option (Item τ ε) × LState σ) (hn : next (c.config actions width input) st = some r) :
    RefNext items c ctxAt (c.config actions width input) st r :=
  next_refines_ref items c h hok ctxAt hnum actions width input st hr r hn

/-- **The numbering of the semantic-action table is irrelevant; rules with equal actions may share an entry.** Rename the action index of every
rule of a definition by ANY function `f` (not necessarily injective: `f` may send all rules without a right-hand side, whose actions are all
`skip`, to one index, or permute the table). The model of the macro then produces the same automata with the accept values renamed and nothing else
changed (`compileLexer_mapV`: no stage compares, sorts or deduplicates accept values), and if the action table `acts'` of the renamed lexer gives every
renamed index the action the rule had (`acts' (f k) = acts k`), the two generated lexers return the same items after any number of calls on every input
and end in the same observable state. (`IndexBlind`: an action does not read the label `View.action` under which the MODEL calls it — an artefact of
the model: a Rust action has no access to its index; without the hypothesis the statement is false of the model, `ActionNumbering.lean` has the
counterexample.) This is what licenses comparing the implementation's action indices with the model's up to renaming. -/
theorem C10_action_numbering_irrelevant (f : Nat → Nat) (items : LexerDef) (c : Compiled) (hc : compileLexer items = .ok c)
    (acts acts' : Nat → Action σ τ ε) (h : ∀ k, acts' (f k) = acts k) (hblind : ∀ k, (acts k).IndexBlind)
    (width : Nat → Nat) (input : Option (List Nat)) (user : σ) (chars : List Nat) (n : Nat) :
    compileLexer (mapRhs f items) = .ok (c.mapV f) ∧
    (runN ((c.mapV f).config acts' width input) n (initState user chars)).1 = (runN (c.config acts width input) n (initState user chars)).1 ∧
    (runN ((c.mapV f).config acts' width input) n (initState user chars)).2.obs = (runN (c.config acts width input) n (initState user chars)).2.obs :=
  action_numbering_irrelevant f items c hc acts acts' h hblind width input user chars n

/-- the pipeline is natural in the action indices (errors included) -/
theorem C10_pipeline_natural_in_action_indices (f : Nat → Nat) (items : LexerDef) :
    compileLexer (mapRhs f items) = (compileLexer items).map (Compiled.mapV f) :=
  compileLexer_mapV f items

/-- the sugar forms satisfy the hypothesis -/
example : (Action.skip : Action σ τ ε).IndexBlind ∧ ∀ t : τ, (Action.simple t : Action σ τ ε).IndexBlind :=
  ⟨Action.indexBlind_skip, fun t => Action.indexBlind_simple t⟩

end Lexgen
