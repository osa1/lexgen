import LexgenModel.Proofs.NextMore
import LexgenModel.Proofs.NextEqSpec
import LexgenModel.Proofs.RefRefine
import LexgenModel.Proofs.EndToEnd
/-!
# C08 — After a failure the lexer resumes past the bad text, in Init, and stays there
-/
namespace Lexgen
variable {σ τ ε : Type}

/-- After an `InvalidToken`: state 0 (`Init`) is both the current and the initial state (so the
lexer stays there until an action switches), the current match is empty, nothing is saved. -/
theorem C08_reset_to_init (cfg : Config σ τ ε) (hm : MachineOK cfg) (st : LState σ) (hr : Ready cfg st)
    (l : Loc) (st' : LState σ) (h : next cfg st = some (some (.invalid l), st')) :
    st'.state = 0 ∧ st'.initial = 0 ∧ st'.curStart = st'.curEnd ∧ st'.last = none :=
  next_invalid cfg hm st hr l st' h

/-- The failure resumes right after the characters examined — those read through `goto`
transitions plus the offending character when one was read —, does not touch the user state, and
flags end-of-input exactly when everything was read. -/
theorem C08_resume_position (cfg : Config σ τ ε) (hm : MachineOK cfg) (s : Nat) (st : LState σ)
    (hlast : st.last = none) (hdone : st.done = false) (loc : Loc) (st' : LState σ)
    (h : scan cfg (dispatch (stateArms cfg.dfa cfg.inl)) s st.iter st = .err loc st') :
    st'.iter = st.iter.drop (gotoLen cfg.dfa s st.iter + 1) ∧
    st'.done = decide (gotoLen cfg.dfa s st.iter = st.iter.length) ∧ st'.user = st.user := by
  have hsp := scan_spec hm s st hlast hdone
  rw [h] at hsp
  cases hsp
  exact ⟨rfl, rfl, rfl⟩

/-- …for every well-formed definition the model compiles. -/
theorem C08_reset_to_init_compiled (items : LexerDef) (c : Compiled) (h : compileLexer items = .ok c) (hok : DefOK items)
    (actions : Nat → Action σ τ ε) (width : Nat → Nat) (input : Option (List Nat)) (st : LState σ)
    (hr : Ready (c.config actions width input) st) (l : Loc) (st' : LState σ)
    (hn : next (c.config actions width input) st = some (some (.invalid l), st')) :
    st'.state = 0 ∧ st'.initial = 0 ∧ st'.curStart = st'.curEnd ∧ st'.last = none :=
  next_invalid _ (compileLexer_machineOK items c h hok actions width input) st hr l st' hn

/-- Recovery at the language level: after `RefNext.invalid` the state satisfies `ErrResume` (state 0 = `Init` active, empty match,
nothing saved, user state untouched, at least one character consumed unless the input ended), so the next call is again a
reference step from `Init`. -/
theorem C08_refines_reference (items : LexerDef) (c : Compiled) (h : compileLexer items = .ok c) (hok : DefOK items)
    (ctxAt : Nat → Regex) (hnum : CtxNumbering items ctxAt)
    (actions : Nat → Action σ τ ε) (width : Nat → Nat) (input : Option (List Nat))
    (st : LState σ) (hr : Ready (c.config actions width input) st)
    (r : Option (Item τ ε) × LState σ) (hn : next (c.config actions width input) st = some r) :
    RefNext items c ctxAt (c.config actions width input) st r :=
  next_refines_ref items c h hok ctxAt hnum actions width input st hr r hn

/-- Recovery at the language level, completely: the model's `next()` equals the executable reference lexer, whose `InvalidToken` branch (`errState`) resumes
after the longest VIABLE prefix of the remaining input (a prefix that some rule of the active rule set can still extend to one of its words) plus the
offending character if the automaton was still reading, with `Init` active, an empty match, nothing saved and the user state untouched; what `viableRef`
computes is characterised in terms of the regex denotations by `C08_viable_prefix`. -/
theorem C08_model_is_specification (items : LexerDef) (c : Compiled) (h : compileLexer items = .ok c) (hok : DefOK items) (hne : DefNE items)
    (actions : Nat → Action σ τ ε) (width : Nat → Nat) (input : Option (List Nat))
    (st : LState σ) (hr : Ready (c.config actions width input) st) :
    next (c.config actions width input) st = specNextFull items (c.config actions width input) st :=
  next_eq_specNext items c h hok hne actions width input st hr

/-- the viability scan of the reference lexer in terms of `den`: `k` is the length of the longest prefix all of whose non-empty prefixes some regex can extend
to a word, the next prefix (if any) cannot be extended by anything, and the flag says whether after `k` characters some regex can take at least one more symbol -/
theorem C08_viable_prefix (res : List Regex) (hne : ∀ r ∈ res, NoEmptyPieces r) (iter : List Nat) :
    (viableRef res iter).1 ≤ iter.length ∧
    (∀ j, 0 < j → j ≤ (viableRef res iter).1 → ∃ r ∈ res, ∃ v : List Sym, den r ((iter.take j).map Sym.ch ++ v)) ∧
    ((viableRef res iter).1 < iter.length →
      ¬ ∃ r ∈ res, ∃ v : List Sym, den r ((iter.take ((viableRef res iter).1 + 1)).map Sym.ch ++ v)) ∧
    (((viableRef res iter).2.any fun r => aliveR r && hasWordR r) = true ↔
      ∃ r ∈ res, ∃ (x : Sym) (v : List Sym), den r ((iter.take (viableRef res iter).1).map Sym.ch ++ x :: v)) :=
  viableRef_spec res hne iter

end Lexgen
