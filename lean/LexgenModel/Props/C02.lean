import LexgenModel.Proofs.ClassEval
import LexgenModel.Proofs.Simplify
import LexgenModel.Proofs.BisimSound
import LexgenModel.Proofs.RuleSetLang
import LexgenModel.Proofs.CompileLang
import LexgenModel.Proofs.EndToEnd
import LexgenModel.Proofs.RefMatch
import LexgenModel.Proofs.Interchange
import LexgenModel.Proofs.RunCongr
/-!
# C02 — Regex operators denote their documented languages

`C02_language`: the DFA the model of `compile_rule_set` builds for a rule set accepts, after ANY word over the
extended alphabet, exactly the rules whose regex DENOTES that word (`den`: the README's reading of every operator), in
rule order. Interchangeability of regexes with equal denotation is a corollary: `den` is all the theorem depends on.
`C02_end_to_end` composes every stage of the model of `lexer()` into one statement about the FINAL machine.
-/
namespace Lexgen

/-- class expressions denote exact sets, and evaluation never yields a malformed class -/
theorem C02_class_denotation (e : Regex) (m : RangeMap Unit) (h : regexToRangeMap e = .ok m) (hp : classPiecesOK e) :
    RangeMap.WF m ∧ ∀ x, (RangeMap.lookup m x).isSome = true ↔ classDen e x :=
  regexToRangeMap_spec builtinsWF e m h hp

/-- `a | b` and `b | a` between classes, chained differences etc. are interchangeable: two class
expressions with the same denotation evaluate to classes accepting the same characters. -/
theorem C02_class_interchange (e1 e2 : Regex) (m1 m2 : RangeMap Unit)
    (h1 : regexToRangeMap e1 = .ok m1) (h2 : regexToRangeMap e2 = .ok m2)
    (hp1 : classPiecesOK e1) (hp2 : classPiecesOK e2) (hden : ∀ x, classDen e1 x ↔ classDen e2 x) (x : Nat) :
    (RangeMap.lookup m1 x).isSome = (RangeMap.lookup m2 x).isSome := by
  rw [Bool.eq_iff_iff, (regexToRangeMap_spec builtinsWF e1 m1 h1 hp1).2 x,
    (regexToRangeMap_spec builtinsWF e2 m2 h2 hp2).2 x]
  exact hden x

/-- dropping terminal states keeps, for every word, the accept list reached -/
theorem C02_simplify_preserves (d : DFA Nat) (entries : List (String × Nat)) (d' : DFA Trans) (entries' : List (String × Nat))
    (h : simplify d entries = .ok (d', entries')) (hT : TargetsInRange d)
    (s : Nat) (hs : s < d.length) (hk : (emptyStates d).contains s = false) (w : List Nat) :
    (reach d' (.st (newIdx d s)) w).map (Auto.acc d') = (reachN d s w).map (fun t => (d.st t).accepting) :=
  simplify_reach d entries d' entries' h hT s hs hk w

/-- The DFA of a rule set accepts after every word exactly the rules whose regex denotes it, in
priority order; where it is dead no rule matches. (`regexPiecesOK`: bracket ranges non-inverted —
the well-formedness the property grants.) -/
theorem C02_language (rules : List CoreRule) (hre : ∀ r ∈ rules, regexPiecesOK r.re) (nfa : NFA)
    (h : buildNfa rules = .ok nfa) (d : DFA Nat) (hd : nfaToDfa nfa = some d) (w : List Sym) :
    match reachSym d 0 w with
    | some t => (d.st t).accepting = matchingAccs rules w
    | none => matchingAccs rules w = [] :=
  ruleSet_lang rules hre nfa h d hd w

/-- `compile_rule_set` builds exactly that automaton from the rule set's items (variables
substituted with the bindings in scope, right contexts numbered sequentially). -/
theorem C02_rule_set_compilation (items : List RuleOrBinding) (b : Bindings) (ctxs : List (DFA Nat)) (d : DFA Nat) (ctxs' : List (DFA Nat))
    (h : compileRuleSet items b ctxs = .ok (d, ctxs')) :
    ∃ rules nfa, coreRules items b ctxs.length = some rules ∧ buildNfa rules = .ok nfa ∧ nfaToDfa nfa = some d :=
  compileRuleSet_core items b ctxs d ctxs' h

-- `hsame` is not used
set_option linter.unusedVariables false in
/-- Regexes that denote the same language are interchangeable: the accept lists of the two rule
sets coincide after every word (both are `matchingAccs`, which depends on `den` only). -/
theorem C02_interchange (rules1 rules2 : List CoreRule)
    (hsame : rules1.map (fun r => (r.ctx, r.value)) = rules2.map (fun r => (r.ctx, r.value)))
    (hden : ∀ w, matchingAccs rules1 w = matchingAccs rules2 w)
    (h1 : ∀ r ∈ rules1, regexPiecesOK r.re) (h2 : ∀ r ∈ rules2, regexPiecesOK r.re)
    (n1 n2 : NFA) (hn1 : buildNfa rules1 = .ok n1) (hn2 : buildNfa rules2 = .ok n2)
    (d1 d2 : DFA Nat) (hd1 : nfaToDfa n1 = some d1) (hd2 : nfaToDfa n2 = some d2) (w : List Sym)
    (t1 t2 : Nat) (hr1 : reachSym d1 0 w = some t1) (hr2 : reachSym d2 0 w = some t2) :
    (d1.st t1).accepting = (d2.st t2).accepting := by
  have a := ruleSet_lang rules1 h1 n1 hn1 d1 hd1 w
  have b := ruleSet_lang rules2 h2 n2 hn2 d2 hd2 w
  rw [hr1] at a
  rw [hr2] at b
  simp only at a b
  rw [a, b, hden w]

/-- The per-program comparison of the model's DFA with the macro's dumped DFA is sound: when the
product exploration `bisim` (run by `lexmodel stage` on every corpus program) succeeds, the two
automata have equal accept lists (rule and context ids, in order) and equal end-of-input behaviour
for EVERY word over code points `≤ char::MAX` from every compared entry — not for sampled words. -/
theorem C02_comparison_sound {τ₁ τ₂ : Type} [Target τ₁] [Target τ₂] (a : DFA τ₁) (b : DFA τ₂) (starts : List (Nat × Nat))
    (h : (bisim a b (fun l1 l2 => l1 == l2) starts).1.ok = true) (x y : Nat) (hxy : (x, y) ∈ starts) :
    EquivFrom a b x y :=
  bisim_sound a b starts h x y hxy

/-- End to end through the model of the macro: for every rule set of a lexer definition the model
compiles, the final machine (after `add_dfa` glue, backtrack analysis and `simplify`) has an entry for
that rule set from which, after every word of characters, the accept list is exactly the rules of the
set whose regex denotes the word — in rule order — and the end-of-input transition carries exactly the
rules denoting the word followed by end-of-input. The side condition is that the class fragments of the
desugared rules are the ones `C02_class_denotation` covers. -/
theorem C02_end_to_end (items : LexerDef) (c : Compiled) (h : compileLexer items = .ok c)
    (name : String) (rs : List RuleOrBinding) (b : Bindings) (k : Nat)
    (hmem : (name, rs, b, k) ∈ scopedRuleSets items [] 0) :
    ∃ e rules, (name, e) ∈ c.entries ∧ e < c.dfa.length ∧ coreRules rs b k = some rules ∧
      ((∀ r ∈ rules, regexPiecesOK r.re) → RealisesRules c.dfa e rules) :=
  compileLexer_lang items c h name rs b k hmem

/-- The same for definitions WITHOUT rule sets (the common case): the top-level rules form one unnamed rule
set entered at state 0. -/
theorem C02_end_to_end_unnamed (items : LexerDef) (c : Compiled) (h : compileLexer items = .ok c)
    (hno : hasRuleSets items = false) :
    0 < c.dfa.length ∧ ∃ rules, coreRules (topRules items) [] 0 = some rules ∧
      ((∀ r ∈ rules, regexPiecesOK r.re) → RealisesRules c.dfa 0 rules) :=
  compileLexer_lang_unnamed items c h hno

/-- What the compiled machine matches is what the definition denotes: from the entry of every rule set of a
well-formed definition, `(n, a, viaEoi)` is a match of the machine iff the first `n` characters (followed
by end-of-input when `viaEoi`) are denoted by the rule with action `a`, which is the first rule in source
order denoting them whose right context holds, as a language, on the rest of the input. -/
theorem C02_matches_are_language_matches {σ τ ε : Type} (items : LexerDef) (c : Compiled) (h : compileLexer items = .ok c)
    (hok : DefOK items) (ctxAt : Nat → Regex) (hnum : CtxNumbering items ctxAt)
    (name : String) (rs : List RuleOrBinding) (b : Bindings) (k : Nat) (hmem : (name, rs, b, k) ∈ allRuleSets items)
    (actions : Nat → Action σ τ ε) (width : Nat → Nat) (input : Option (List Nat)) :
    ∃ e rules, IsEntryOf items c name e ∧ e < c.dfa.length ∧ coreRules rs b k = some rules ∧
      ∀ iter n a viaEoi,
        Cand (c.config actions width input) e iter n a viaEoi ↔ LangCand rules ctxAt iter n a viaEoi :=
  compile_cand_iff items c h hok ctxAt hnum name rs b k hmem actions width input

/-- The denotation of every regex is DECIDABLE by Brzozowski derivatives, and the executable matcher is correct: this is the verified core of the
reference lexer the checks run against the implementation. -/
theorem C02_reference_matcher (r : Regex) (w : List Sym) : matchesR r w = true ↔ den r w :=
  matchesR_iff r w

/-- Maximal munch with first-rule priority is decided by evaluation too: the executable selector returns exactly the `Selects` triple. -/
theorem C02_reference_selector (rules : List CoreRule) (ctxAt : Nat → Regex) (iter : List Nat) (n a : Nat) (e : Bool) :
    selectRef rules ctxAt iter = some (n, a, e) ↔ Selects rules ctxAt iter n a e :=
  selectRef_some rules ctxAt iter n a e

/-- **Interchangeability at full behaviour.** The reference lexer — which the model of the generated code equals (`C01_model_is_specification`) — consults the
regexes of the active rule set only through the maximal-munch selection and the error-skip amount, and both depend on the regexes ONLY through their
denotations: rule lists with the same actions and right-context numbers and pairwise equal denotations (`r+` vs `r r*`, `a | b` vs `b | a`, a string literal vs
the concatenation of its characters, a variable vs its definition after substitution, …) select the same match on every input and skip the same amount after
a failure. -/
theorem C02_interchange_selection (rs1 rs2 : List CoreRule) (ctxAt1 ctxAt2 : Nat → Regex) (h : RulesEquiv rs1 rs2)
    (hc : ∀ i rest, CtxLang (ctxAt1 i) rest ↔ CtxLang (ctxAt2 i) rest) (iter : List Nat) :
    selectRef rs1 ctxAt1 iter = selectRef rs2 ctxAt2 iter :=
  selectRef_congr rs1 rs2 ctxAt1 ctxAt2 h hc iter

/-- The other half of `C02_interchange_selection`: after a failure the reference lexer skips the same amount of input for both rule lists; the position where the
generated lexer resumes after an `InvalidToken` depends on the denotations only (rule sets without empty pieces). -/
theorem C02_interchange_error_skip (rs1 rs2 : List CoreRule) (h : RulesEquiv rs1 rs2)
    (h1 : ∀ r ∈ rs1, NoEmptyPieces r.re) (h2 : ∀ r ∈ rs2, NoEmptyPieces r.re) (iter : List Nat) :
    errAdvance (rs1.map (·.re)) iter = errAdvance (rs2.map (·.re)) iter :=
  errAdvance_congr rs1 rs2 h h1 h2 iter

/-- **Interchangeability, end to end.** Two well-formed definitions with the same rule-set names in the same order and, rule by rule, the same action,
the same right-context number and the same DENOTATION of regex and right contexts (`DefEquiv` — however the regexes are written: with or without `let`
variables, `r+` or `r r*`, `a | b` or `b | a`, a string or the concatenation of its characters) compile to machines with different states and state
numbers, but the models of the two generated lexers return the same items on every input, for every action table, after any number of calls of
`next()`, and leave the same observable lexer state (position, user state, remaining input, end-of-input flag). Proof: both runs equal the run of the
executable reference lexer (`run_fresh_eq_spec`), which reads the definition only through `den`. -/
theorem C02_interchange_end_to_end {σ τ ε : Type} (items1 items2 : LexerDef) (c1 c2 : Compiled)
    (h1 : compileLexer items1 = .ok c1) (h2 : compileLexer items2 = .ok c2)
    (hok1 : DefOK items1) (hok2 : DefOK items2) (hne1 : DefNE items1) (hne2 : DefNE items2) (heq : DefEquiv items1 items2)
    (actions : Nat → Action σ τ ε) (width : Nat → Nat) (input : Option (List Nat)) (user : σ) (chars : List Nat) (n : Nat) :
    (runN (c1.config actions width input) n (initState user chars)).1 = (runN (c2.config actions width input) n (initState user chars)).1 ∧
    (runN (c1.config actions width input) n (initState user chars)).2.obs = (runN (c2.config actions width input) n (initState user chars)).2.obs :=
  run_congr items1 items2 c1 c2 h1 h2 hok1 hok2 hne1 hne2 heq actions width input user chars n

/-- non-vacuity: `rule Init { let d = 'b'; 'a' $d+ = 0 }` and `rule Init { 'a' 'b' 'b'* = 0 }` both compile, are well-formed and are `DefEquiv` -/
example : DefEquiv RunCongr.exLet RunCongr.exPlain ∧ DefOK RunCongr.exLet ∧ DefOK RunCongr.exPlain ∧ DefNE RunCongr.exLet ∧ DefNE RunCongr.exPlain ∧
    (∃ c, compileLexer RunCongr.exLet = .ok c) ∧ (∃ c, compileLexer RunCongr.exPlain = .ok c) :=
  ⟨RunCongr.exLet_equiv, RunCongr.exLet_ok, RunCongr.exPlain_ok, RunCongr.exLet_ne, RunCongr.exPlain_ne, RunCongr.exLet_compiles, RunCongr.exPlain_compiles⟩

/-- the documented identities, as instances -/
theorem C02_plus_is_r_rstar (r : Regex) (w : List Sym) : den (.plus r) w ↔ den (.cat r (.star r)) w := den_plus_unfold r w
theorem C02_alt_commutes (a b : Regex) (w : List Sym) : den (.alt a b) w ↔ den (.alt b a) w := den_alt_comm a b w

end Lexgen
