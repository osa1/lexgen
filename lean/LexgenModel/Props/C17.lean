import LexgenModel.Proofs.CompileTotal
import LexgenModel.Proofs.StaticIff
/-!
# C17 — Ill-formed definitions are rejected at expansion time (model of `lexer()`'s static checks)

`Rejected x`: the model of the macro returns an error (the macro panics or returns a `syn` error),
whatever else the definition contains. (Malformed syntax is the parser's part: the parser model is
tied to the real parser on malformed token sequences in the C16 check.)
-/
namespace Lexgen

theorem C17_mixed_rules (items : LexerDef) (h : mixedRules items = true) : Rejected (compileLexer items) :=
  rejected_of_not_static fun hs => by
    rw [hs.notMixed] at h
    cases h

theorem C17_error_type_twice (pre mid post : LexerDef) :
    Rejected (compileLexer (pre ++ [.errorType] ++ mid ++ [.errorType] ++ post)) :=
  rejected_of_not_static fun hs =>
    List.countP_eq_zero.mp
      ((StaticIff.errorTypeOnce_iff _).mp hs.errorTypeOnce (pre ++ [.errorType] ++ mid) _ post
        (List.append_assoc _ _ _) rfl)
      .errorType (List.mem_append_left _ (List.mem_append_right _ List.mem_cons_self)) rfl

theorem C17_variable_twice (pre mid post : LexerDef) (n : String) (r1 r2 : Regex) :
    Rejected (compileLexer (pre ++ [.rb (.binding n r1)] ++ mid ++ [.rb (.binding n r2)] ++ post)) :=
  rejected_of_not_static fun hs =>
    (StaticIff.topLetsDistinct_iff _).mp hs.topLetsDistinct (pre ++ [.rb (.binding n r1)] ++ mid) _ post
      (List.append_assoc _ _ _) n r2 rfl
      (List.mem_map.mpr ⟨(n, r1), List.mem_filterMap.mpr ⟨.rb (.binding n r1),
        List.mem_append_left _ (List.mem_append_right _ List.mem_cons_self), rfl⟩, rfl⟩)

theorem C17_local_variable_twice (pre post : LexerDef) (name : String) (rpre rmid rpost : List RuleOrBinding) (n : String) (r1 r2 : Regex) :
    Rejected (compileLexer (pre ++ [.ruleSet name (rpre ++ [.binding n r1] ++ rmid ++ [.binding n r2] ++ rpost)] ++ post)) :=
  rejected_of_not_static fun hs =>
    (hs.ruleSets pre name _ post (List.append_assoc _ _ _)).letFresh (rpre ++ [.binding n r1] ++ rmid) n r2 rpost
      (List.append_assoc _ _ _)
      (List.mem_map.mpr ⟨(n, r1), List.mem_append_right _ (List.mem_filterMap.mpr ⟨.binding n r1,
        List.mem_append_left _ (List.mem_append_right _ List.mem_cons_self), rfl⟩), rfl⟩)

theorem C17_rule_set_twice (pre mid post : LexerDef) (n : String) (rs1 rs2 : List RuleOrBinding) :
    Rejected (compileLexer (pre ++ [.ruleSet n rs1] ++ mid ++ [.ruleSet n rs2] ++ post)) :=
  rejected_of_not_static fun hs =>
    (StaticIff.ruleSetsDistinct_iff _).mp hs.ruleSetsDistinct (pre ++ [.ruleSet n rs1] ++ mid) _ post
      (List.append_assoc _ _ _) n rs2 rfl
      (List.mem_filterMap.mpr ⟨.ruleSet n rs1,
        List.mem_append_left _ (List.mem_append_right _ List.mem_cons_self), rfl⟩)

theorem C17_first_rule_set_not_init (pre post : LexerDef) (n : String) (rs : List RuleOrBinding) (hn : n ≠ "Init")
    (hpre : ∀ it ∈ pre, ∀ m rs', it ≠ .ruleSet m rs') :
    Rejected (compileLexer (pre ++ [.ruleSet n rs] ++ post)) :=
  rejected_of_not_static fun hs => by
    refine hn ((StaticIff.firstIsInit_iff _).mp hs.firstIsInit pre _ post (List.append_assoc _ _ _) n rs rfl ?_)
    rw [ruleSetNames, List.filterMap_eq_nil_iff]
    intro it hit
    cases it with
    | ruleSet m rs' => exact absurd rfl (hpre _ hit m rs')
    | errorType => rfl
    | rb y => rfl

theorem C17_unbound_variable (lets post : LexerDef) (r : SingleRule) (n : String)
    (hlets : ∀ it ∈ lets, it = .errorType ∨ ∃ m re, it = .rb (.binding m re) ∧ m ≠ n)
    (h : MentionsVar n r.re ∨ ∃ c, r.ctx = some c ∧ MentionsVar n c) :
    Rejected (compileLexer (lets ++ [.rb (.rule r)] ++ post)) :=
  rejected_of_not_static fun hs =>
    not_ruleElaborates (not_mem_topBindings hlets) h (hs.topRules lets r post (List.append_assoc _ _ _))

theorem C17_unbound_variable_in_rule_set (lets post : LexerDef) (name : String) (rpre rpost : List RuleOrBinding) (r : SingleRule) (n : String)
    (hlets : ∀ it ∈ lets, it = .errorType ∨ ∃ m re, it = .rb (.binding m re) ∧ m ≠ n)
    (hrpre : ∀ it ∈ rpre, ∀ re, it ≠ .binding n re)
    (h : MentionsVar n r.re ∨ ∃ c, r.ctx = some c ∧ MentionsVar n c) :
    Rejected (compileLexer (lets ++ [.ruleSet name (rpre ++ [.rule r] ++ rpost)] ++ post)) :=
  rejected_of_not_static fun hs => by
    refine not_ruleElaborates ?_ h
      ((hs.ruleSets lets name _ post (List.append_assoc _ _ _)).ruleElab rpre r rpost (List.append_assoc _ _ _))
    unfold boundNames
    rw [List.map_append, List.mem_append]
    rintro (hmem | hmem)
    · exact not_mem_topBindings hlets hmem
    · obtain ⟨⟨m, re⟩, hb, rfl⟩ := List.mem_map.mp hmem
      obtain ⟨it, hit, hfm⟩ := List.mem_filterMap.mp hb
      cases it with
      | rule r' => cases hfm
      | binding m' re' =>
        cases hfm
        exact hrpre _ hit re rfl

/-- This theorem and the next are stated at `NFA.addRe`, the stage of the model that raises the error, for the regex as it
stands after the substitution of variables; the others are about `compileLexer`. -/
theorem C17_unknown_builtin (n : String) (hn : builtinRanges n = none) (re : Regex) (h : MentionsBuiltin n re)
    (cur cont : Nat) (nfa : NFA) : Rejected (NFA.addRe re cur cont nfa) :=
  addRe_unknown_builtin n hn re h cur cont nfa

theorem C17_diff_operand_not_a_class (a b : Regex) (h : ¬ IsClassExpr a ∨ ¬ IsClassExpr b) (cur cont : Nat) (nfa : NFA) :
    Rejected (NFA.addRe (.diff a b) cur cont nfa) :=
  addRe_diff_operand a b h cur cont nfa

/-- non-vacuity: `'a' # "bc"` has a non-class operand -/
example : ¬ IsClassExpr (.chr 97) ∨ ¬ IsClassExpr (.str [98, 99]) := Or.inr (by simp [IsClassExpr])

/-- Conversely to the rejection theorems: the ONLY ways the model of the macro fails are those static errors —
it never fails for an internal reason (assertion, non-termination), whatever the definition. -/
theorem C17_only_user_errors (items : LexerDef) (hp : ItemsPiecesOK items) (e : CompileError)
    (h : compileLexer items = .error e) :
    (∃ w, e = .unboundVar w) ∨ (∃ w, e = .unknownBuiltin w) ∨ (∃ w, e = .notAClass w) ∨ (∃ w, e = .varCycle w) ∨
    (∃ w, e = .dupVar w) ∨ (∃ w, e = .dupRuleSet w) ∨ e = .dupErrorType ∨ e = .mixedRules ∨ e = .firstNotInit := by
  have hi := compileLexer_no_internal items hp e h
  cases e with
  | unboundVar w => exact Or.inl ⟨w, rfl⟩
  | unknownBuiltin w => exact Or.inr (Or.inl ⟨w, rfl⟩)
  | notAClass w => exact Or.inr (Or.inr (Or.inl ⟨w, rfl⟩))
  | varCycle w => exact Or.inr (Or.inr (Or.inr (Or.inl ⟨w, rfl⟩)))
  | dupVar w => exact Or.inr (Or.inr (Or.inr (Or.inr (Or.inl ⟨w, rfl⟩))))
  | dupRuleSet w => exact Or.inr (Or.inr (Or.inr (Or.inr (Or.inr (Or.inl ⟨w, rfl⟩)))))
  | dupErrorType => exact Or.inr (Or.inr (Or.inr (Or.inr (Or.inr (Or.inr (Or.inl rfl))))))
  | mixedRules => exact Or.inr (Or.inr (Or.inr (Or.inr (Or.inr (Or.inr (Or.inr (Or.inl rfl)))))))
  | firstNotInit => exact Or.inr (Or.inr (Or.inr (Or.inr (Or.inr (Or.inr (Or.inr (Or.inr rfl)))))))
  | internal w => simp [CompileError.isInternal] at hi

/-- **Exactly the statically well-formed definitions are accepted.** The model of the macro succeeds on a definition iff it satisfies the declarative
predicate `StaticOK` (Spec/StaticOK.lean): rules at top level and rule sets are not mixed; `type Error` at most once; rule-set names distinct and the first is
`Init`; a `let` repeats no earlier `let` in scope; every rule and right context elaborates in the bindings in scope (every reached variable bound, no cycle,
built-ins known, operands of `#` are class expressions). So every violation is rejected (C17) and nothing else is (C12). -/
theorem C17_accepts_exactly_static_ok (items : LexerDef) (hp : ItemsPiecesOK items) :
    (∃ c, compileLexer items = .ok c) ↔ StaticOK items :=
  compileLexer_ok_iff items hp

end Lexgen
