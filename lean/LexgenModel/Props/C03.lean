import LexgenModel.Proofs.NextProtocol
import LexgenModel.Proofs.EndToEnd
/-!
# C03 — Rule sets are entered only by switch or failure reset; numbering is exact
-/
namespace Lexgen
variable {σ τ ε : Type}

/-- The number stored in `__state` for a state that has an arm selects exactly that state's arm,
whatever was inlined before it — for any admissible set `inl` of inlined states (whatever policy
chose it). -/
theorem C03_dispatch (d : DFA Trans) (inl : List Nat) (hI : InlOK d inl) (s : Nat) (hs : s < d.length)
    (as : hasArm inl s = true) :
    dispatch (stateArms d inl) (renumber inl s) = some s :=
  dispatch_correct d inl hI s hs as

/-- `switch R` stores the number whose arm is the code of `R`'s own entry state. -/
theorem C03_switch (d : DFA Trans) (inl : List Nat) (hI : InlOK d inl) (entries : List (String × Nat))
    (name : String) (e : Nat)
    (he : (name, e) ∈ entries) (hlt : e < d.length) (hini : (d.st e).initial = true) :
    ∃ n, (name, n) ∈ switchTable inl entries ∧ dispatch (stateArms d inl) n = some e :=
  switch_correct d inl hI entries name e he hlt hini

/-- The macro's current policy is one admissible choice. -/
theorem C03_dispatch_default (d : DFA Trans) (s : Nat) (hs : s < d.length)
    (as : hasArm (inlinedStates d) s = true) :
    dispatch (stateArms d (inlinedStates d)) (renumber (inlinedStates d) s) = some s :=
  C03_dispatch d (inlinedStates d) (inlOK_inlinedStates d) s hs as

/-- At every lexeme boundary `__state = __initial_state` is the number of a rule set's entry state
(or state 0): the active rule set changes only through `switch` or a failure. -/
theorem C03_boundary_state (cfg : Config σ τ ε) (hm : MachineOK cfg) (st : LState σ) (hr : Ready cfg st)
    (item : Option (Item τ ε)) (st' : LState σ) (h : next cfg st = some (item, st')) : Ready cfg st' :=
  next_ready cfg hm st hr item st' h

/-- …for every well-formed definition the model compiles (no run of the checker needed). -/
theorem C03_boundary_state_compiled (items : LexerDef) (c : Compiled) (h : compileLexer items = .ok c) (hok : DefOK items)
    (actions : Nat → Action σ τ ε) (width : Nat → Nat) (input : Option (List Nat)) (st : LState σ)
    (hr : Ready (c.config actions width input) st) (item : Option (Item τ ε)) (st' : LState σ)
    (hn : next (c.config actions width input) st = some (item, st')) : Ready (c.config actions width input) st' :=
  next_ready _ (compileLexer_machineOK items c h hok actions width input) st hr item st' hn

/-- Rule sets are isolated at the language level: from the entry of a rule set, the compiled machine only
ever matches with rules of THAT rule set (`LangCand` ranges over `rules` alone). -/
theorem C03_isolation (items : LexerDef) (c : Compiled) (h : compileLexer items = .ok c) (hok : DefOK items)
    (ctxAt : Nat → Regex) (hnum : CtxNumbering items ctxAt)
    (name : String) (rs : List RuleOrBinding) (b : Bindings) (k : Nat) (hmem : (name, rs, b, k) ∈ allRuleSets items)
    (actions : Nat → Action σ τ ε) (width : Nat → Nat) (input : Option (List Nat)) :
    ∃ e rules, IsEntryOf items c name e ∧ coreRules rs b k = some rules ∧
      ∀ iter n a viaEoi, Cand (c.config actions width input) e iter n a viaEoi → ∃ r ∈ rules, r.value = a := by
  obtain ⟨e, rules, he, _, hc, hiff⟩ := compile_cand_iff items c h hok ctxAt hnum name rs b k hmem actions width input
  refine ⟨e, rules, he, hc, fun iter n a viaEoi hcand => ?_⟩
  -- the selected action is the value of an entry of `matchingAccs rules _`, i.e. of a rule of the set
  have key : ∀ (rest : List Nat) (accs : List Acc), firstLang ctxAt rest accs = some a → ∃ x ∈ accs, x.value = a := by
    intro rest accs
    induction accs with
    | nil => exact fun hx => by cases hx
    | cons x more ih =>
      intro hx
      rw [firstLang] at hx
      split at hx
      · exact ⟨x, List.mem_cons_self, Option.some.inj hx⟩
      · split at hx
        · exact ⟨x, List.mem_cons_self, Option.some.inj hx⟩
        · obtain ⟨y, hy, hv⟩ := ih hx
          exact ⟨y, List.mem_cons_of_mem _ hy, hv⟩
  have hl := ((hiff iter n a viaEoi).mp hcand).2
  have hsel : ∃ rest w, firstLang ctxAt rest (matchingAccs rules w) = some a := by
    cases viaEoi with
    | true => exact ⟨_, _, (Eq.mp (if_pos rfl) hl).2⟩
    | false => exact ⟨_, _, Eq.mp (if_neg Bool.false_ne_true) hl⟩
  obtain ⟨rest, w, hf⟩ := hsel
  obtain ⟨x, hx, hv⟩ := key _ _ hf
  obtain ⟨r, hr, rfl⟩ := mem_matchingAccs hx
  exact ⟨r, hr, hv⟩

end Lexgen
