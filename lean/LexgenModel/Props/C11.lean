import LexgenModel.Proofs.RangeMapOps
/-!
# C11 — Character-class algebra is exact at every code point

`RangeMap` operations, for every operation sequence and every code point: well-formedness
(non-inverted, strictly increasing, disjoint ranges) is preserved and `lookup` has set semantics.
-/
namespace Lexgen
open RangeMap

/-- `insert`: the map stays well-formed; the value at every code point is the old value merged with
the inserted one where the new range covers it. -/
theorem C11_insert {α : Type} (merge : α → α → α) (l : RangeMap α) (ns ne : Nat) (v : α)
    (hwf : WF l) (hne : ns ≤ ne) :
    WF (RangeMap.insert merge l ns ne v) ∧
    ∀ c, lookup (RangeMap.insert merge l ns ne v) c = mergeOpt merge (lookup l c) (decide (ns ≤ c ∧ c ≤ ne)) v :=
  insert_spec merge l ns ne v hwf hne

/-- `insert_ranges` (class union `|`): pointwise merge of two well-formed maps. -/
theorem C11_insertRanges {α : Type} (merge : α → α → α) (l1 l2 : RangeMap α) (h1 : WF l1) (h2 : WF l2) :
    WF (insertRanges merge l1 l2) ∧
    ∀ c, lookup (insertRanges merge l1 l2) c = mergeOpt2 merge (lookup l1 c) (lookup l2 c) :=
  insertRanges_spec merge l1 l2 0 h1 h2

/-- `remove_ranges` (class difference `#`): exactly the points of the first map not in the second —
also when a removed range spans several pieces or equals a piece. -/
theorem C11_removeRanges {α β : Type} (l1 : RangeMap α) (l2 : RangeMap β) (h1 : WF l1) (h2 : WF l2) :
    WF (removeRanges l1 l2) ∧
    ∀ c, lookup (removeRanges l1 l2) c = if (lookup l2 c).isSome then none else lookup l1 c :=
  removeRanges_spec l1 l2 0 0 h1 h2

inductive ClassOp where
  | ins (s e : Nat)
  | union (m : RangeMap Unit)
  | diff (m : RangeMap Unit)

def ClassOp.ok : ClassOp → Prop
  | .ins s e => s ≤ e
  | .union m => WF m
  | .diff m => WF m

def ClassOp.apply (m : RangeMap Unit) : ClassOp → RangeMap Unit
  | .ins s e => RangeMap.insert (fun _ _ => ()) m s e ()
  | .union m2 => insertRanges (fun _ _ => ()) m m2
  | .diff m2 => removeRanges m m2

/-- No sequence of operations produces a malformed class. -/
theorem C11_ops_wellformed (ops : List ClassOp) (hok : ∀ op ∈ ops, op.ok) (m : RangeMap Unit) (hm : WF m) :
    WF (ops.foldl ClassOp.apply m) := by
  induction ops generalizing m with
  | nil => exact hm
  | cons op ops ih =>
    apply ih (fun o ho => hok o (List.mem_cons_of_mem _ ho))
    have hop := hok op (List.mem_cons_self ..)
    cases op with
    | ins s e => exact (insert_spec _ m s e () hm hop).1
    | union m2 => exact (insertRanges_spec _ m m2 0 hm hop).1
    | diff m2 => exact (removeRanges_spec m m2 0 0 hm hop).1

/-- non-vacuity: `['0'-'5' '7'-'9'] # ['0'-'8']` is `['9']` (the case of DESIGN §9-D5) -/
example : removeRanges [(48, 53, ()), (55, 57, ())] [(48, 56, ())] = [(57, 57, ())] := by simp [removeRanges]

example : WF ([(48, 53, ()), (55, 57, ())] : RangeMap Unit) := by
  simp [WF, WFFrom]

end Lexgen
