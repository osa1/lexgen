import LexgenModel.Proofs.Backtrack
import LexgenModel.Proofs.MaxMunch
import LexgenModel.Proofs.NextProtocol
import LexgenModel.Proofs.CheckerSound
import LexgenModel.Proofs.CompileLang
import LexgenModel.Proofs.EndToEnd
import LexgenModel.Proofs.RefRefine
import LexgenModel.Proofs.CapstoneRun
import LexgenModel.Proofs.DumpedMachine
/-!
# C01 — Longest match with first-rule priority, recovered by backtracking

Machine level: for every machine satisfying the decidable well-formedness predicate (evaluated on
the machine the macro produced, on every run), the generated state code (with backtrack elision and
fall-through of failing `Accept` arms) calls exactly the action of the `candLe`-greatest match `Cand`,
after rewinding to it if a longer attempt died, and reports an error only when there is no match at
all. Language level: `C02_end_to_end` composes all stages of the model of `lexer()` into one statement
about the accept lists of the final machine (restated here as `C01_accept_lists`); the per-program
comparison of the model's machine with the dumped machine (sound: `C02_comparison_sound`) ties that
model output to what the macro really produced.
-/
namespace Lexgen
variable {σ τ ε : Type}

/-- The generated code selects the maximal match. -/
theorem C01_maximal_munch (cfg : Config σ τ ε) (hm : MachineOK cfg) (s : Nat) (st : LState σ)
    (hlast : st.last = none) (hdone : st.done = false) (a : Nat) (st' : LState σ)
    (h : scan cfg (dispatch (stateArms cfg.dfa cfg.inl)) s st.iter st = .act a st') :
    ∃ k e, Cand cfg s st.iter k a e ∧
      (∀ k' a' e', Cand cfg s st.iter k' a' e' → candLe k' e' k e) ∧
      ∃ n, st' = { advanceBy cfg.width st k with last := none, done := e, state := n } :=
  scanPlain_act cfg _ hm.targets (dispatchOK_of_machineOK cfg hm) s st hlast hdone a st'
    (scan_eq_scanPlain_of_machineOK cfg hm s st hlast ▸ h)

/-- A lexeme that has a (possibly shorter) match is never reported as an error. -/
theorem C01_error_only_if_no_match (cfg : Config σ τ ε) (hm : MachineOK cfg) (s : Nat) (st : LState σ)
    (hlast : st.last = none) (loc : Loc) (st' : LState σ)
    (h : scan cfg (dispatch (stateArms cfg.dfa cfg.inl)) s st.iter st = .err loc st') :
    ∀ k a e, ¬ Cand cfg s st.iter k a e :=
  (scanPlain_err cfg _ hm.targets (dispatchOK_of_machineOK cfg hm) s st hlast loc st'
    (scan_eq_scanPlain_of_machineOK cfg hm s st hlast ▸ h)).1

/-- Backtrack elision is exact: with locally closed flags the generated code equals the scan that
always rewinds. -/
theorem C01_elision_exact (cfg : Config σ τ ε) (hm : MachineOK cfg) (s : Nat) (iter : List Nat) (st : LState σ)
    (hinv : st.last.isSome = true → (cfg.dfa.st s).backtrack = true) :
    scan cfg (dispatch (stateArms cfg.dfa cfg.inl)) s iter st = scanPlain cfg (dispatch (stateArms cfg.dfa cfg.inl)) s iter st :=
  scan_eq_scanPlain cfg _ hm.flags hm.acceptAny hm.targets (dispatchOK_of_machineOK cfg hm) s iter st hinv

/-- The flags computed by the analysis are locally closed on every graph — the
hypothesis `MachineOK.flags` — and sound along every path through an accepting state. -/
theorem C01_flags_sound (d d' : DFA Nat) (hT : Backtrack.TargetsOK d) (h : updateBacktracks d = some d')
    (i a t u : Nat) (hi : i < d.length) (hini : (d.st i).initial = true)
    (p1 : Backtrack.Path d i a) (hacc : Backtrack.accOf d a = true) (hstep : t ∈ DFA.succs (d.st a))
    (p2 : Backtrack.Path d t u) : (d'.st u).backtrack = true :=
  Backtrack.backtrack_sound d d' hT h i a t u hi hini p1 hacc hstep p2

/-- The hypotheses of these theorems are what the decidable checker `machineWF` establishes; it is
evaluated on the machine the macro actually produced, on every run. -/
theorem C01_checker_establishes_hypotheses (cfg : Config σ τ ε) (nCtx : Nat)
    (h : (machineWF cfg.dfa cfg.entries nCtx cfg.inl).all = true) : MachineOK cfg :=
  machineOK_of_checker cfg nCtx h

/-- First-rule priority at the language level, for the final machine of the model of `lexer()`: from
the entry of every rule set, the accept list reached after any word lists exactly the rules denoting
that word, earliest rule first — so the head of that list (what `Cand`/`selAt` pick when its right
context holds) is the first listed rule matching the lexeme. -/
theorem C01_accept_lists (items : LexerDef) (c : Compiled) (h : compileLexer items = .ok c)
    (name : String) (rs : List RuleOrBinding) (b : Bindings) (k : Nat)
    (hmem : (name, rs, b, k) ∈ scopedRuleSets items [] 0) :
    ∃ e rules, (name, e) ∈ c.entries ∧ e < c.dfa.length ∧ coreRules rs b k = some rules ∧
      ((∀ r ∈ rules, regexPiecesOK r.re) → RealisesRules c.dfa e rules) :=
  compileLexer_lang items c h name rs b k hmem

/-- non-vacuity: the machine of `'a' 'b'+ = 0, 'a' = 1` (states: 0 entry; 1 after `a`, accepting
rule 1; 2 after `ab+`, accepting rule 0, backtrack flag set) satisfies the checker, hence `MachineOK`. -/
def exampleMachine : DFA Trans :=
  [ { initial := true, chars := [(97, Trans.goto 1)] },
    { chars := [(98, Trans.goto 2)], accepting := [{ value := 1, ctx := none }], preds := [0] },
    { chars := [(98, Trans.goto 2)], accepting := [{ value := 0, ctx := none }], preds := [1, 2], backtrack := true } ]

/-- under the macro's current policy state 1 (one predecessor, one arm) is inlined -/
example : inlinedStates exampleMachine = [1] := by decide

example : (machineWF exampleMachine [] 0 [1]).all = true := by decide

def exampleCfg : Config Unit Unit Unit :=
  { dfa := exampleMachine, ctxs := [], entries := [], inl := [1], actions := fun _ => Action.skip,
    width := fun _ => 1, input := none }

example : MachineOK exampleCfg := machineOK_of_checker exampleCfg 0 (by decide)

/-- the hypotheses do not depend on the inlining policy: the same machine with nothing inlined -/
example : MachineOK { exampleCfg with inl := [] } := machineOK_of_checker _ 0 (by decide)

/-- …but an initial state may not be inlined -/
example : (machineWF exampleMachine [] 0 [0]).all = false := by decide

/-- The final machine of the model of `lexer()` satisfies `MachineOK` for EVERY well-formed definition
(`DefOK`: no rule matches the empty string, bracket ranges non-inverted, `$` only at the tail of rules
and right contexts) — so the machine-level theorems above apply to every compiled definition, not only
to machines that were run through the checker. -/
theorem C01_compiled_machine_ok (items : LexerDef) (c : Compiled) (h : compileLexer items = .ok c) (hok : DefOK items)
    (actions : Nat → Action σ τ ε) (width : Nat → Nat) (input : Option (List Nat)) :
    MachineOK (c.config actions width input) :=
  compileLexer_machineOK items c h hok actions width input

/-- **C01 as stated, end to end.** For every well-formed definition the model compiles, every rule set,
every remaining input and every lexer state at a lexeme start: the generated state code, started at the
entry of that rule set, calls the action of a match of the DEFINITION (regex denotations `den`, right
contexts as languages `CtxLang`) that is maximal among all its matches — the longest prefix some rule of
the rule set matches with its right context satisfied, a match through `$` preferred at full length — and
that action belongs to the FIRST rule (source order) matching that prefix; the lexer is advanced by
exactly that prefix (rewinding if a longer attempt died). It reports an error only if NO rule of the
rule set matches any prefix. -/
theorem C01_language_level (items : LexerDef) (c : Compiled) (h : compileLexer items = .ok c) (hok : DefOK items)
    (ctxAt : Nat → Regex) (hnum : CtxNumbering items ctxAt)
    (name : String) (rs : List RuleOrBinding) (b : Bindings) (k : Nat) (hmem : (name, rs, b, k) ∈ allRuleSets items)
    (actions : Nat → Action σ τ ε) (width : Nat → Nat) (input : Option (List Nat)) :
    ∃ e rules, IsEntryOf items c name e ∧ coreRules rs b k = some rules ∧
      ∀ (st : LState σ), st.last = none → st.done = false →
        (∀ a st', scan (c.config actions width input) (dispatch (stateArms c.dfa (inlinedStates c.dfa))) e st.iter st = .act a st' →
          ∃ n viaEoi, LangCand rules ctxAt st.iter n a viaEoi ∧
            (∀ n' a' e', LangCand rules ctxAt st.iter n' a' e' → candLe n' e' n viaEoi) ∧
            ∃ s', st' = { advanceBy width st n with last := none, done := viaEoi, state := s' }) ∧
        (∀ loc st', scan (c.config actions width input) (dispatch (stateArms c.dfa (inlinedStates c.dfa))) e st.iter st = .err loc st' →
          (∀ n a e', ¬ LangCand rules ctxAt st.iter n a e') ∧ loc = st.curStart) :=
  compile_maximal_munch items c h hok ctxAt hnum name rs b k hmem actions width input

/-! non-vacuity: `'a' 'b'+ = 0, 'a' > 'c' = 1` compiles in the model, is well-formed, and its right
contexts are numbered by the constant function -/
def exDef : LexerDef := [ .rb (.rule { re := .cat (.chr 97) (.plus (.chr 98)), ctx := none, rhs := 0 }),
    .rb (.rule { re := .chr 97, ctx := some (.chr 99), rhs := 1 }) ]
/-- the machine the model compiles for `exDef` passes the stage check against itself: one evaluation by
the kernel (compilation, product exploration, checker and all) -/
private theorem exDef_stage :
    ((compileLexer exDef).toOption.map fun c => stageOK c c.dfa c.entries c.ctxs (inlinedStates c.dfa)) = some true := by
  rw [Static.compileLexer_eq]
  simp only [exDef, List.foldlM, Static.lexStep, compileSingleRule, newRightCtx, inlineVars, bind, Except.bind, pure, Except.pure]
  decide

theorem exDef_compiles : ∃ c, compileLexer exDef = .ok c := by
  have := exDef_stage
  cases h : compileLexer exDef with
  | error e => rw [h] at this; cases this
  | ok c => exact ⟨c, rfl⟩

private theorem exDef_ctxs : coreCtxs (topRules exDef) [] = some [.chr 99] := by
  simp only [exDef, topRules, List.filterMap, coreCtxs, inlineVars, List.length_nil, Option.map_some]

private theorem exDef_sets : allRuleSets exDef = [("", topRules exDef, [], 0)] :=
  allRuleSets_unnamed (by decide)

private theorem exDef_rules : coreRules (topRules exDef) [] 0 =
    some [{ re := .cat (.chr 97) (.plus (.chr 98)), ctx := none, value := 0 }, { re := .chr 97, ctx := some 0, value := 1 }] := by
  simp only [exDef, topRules, List.filterMap, coreRules, inlineVars, bind, Except.bind, pure, Except.pure, List.length_nil,
    Option.map_some]

theorem exDef_ok : DefOK exDef := by
  refine defOK_of_single exDef_sets exDef_rules exDef_ctxs (fun r hr => ?_) (fun c hc => ?_)
  · simp only [List.mem_cons, List.not_mem_nil, or_false] at hr
    rcases hr with rfl | rfl
    · refine ⟨⟨trivial, trivial⟩, ⟨trivial, trivial⟩, ?_⟩
      rintro ⟨u, v, huv, hu, _⟩
      cases (hu : u = [Sym.ch 97])
      cases huv
    · exact ⟨trivial, trivial, nofun⟩
  · cases List.mem_singleton.1 hc
    exact ⟨trivial, trivial⟩

example : CtxNumbering exDef (fun _ => .chr 99) :=
  forall_allRuleSets_of_single exDef_sets fun cres hc j hj => by
    cases exDef_ctxs.symm.trans hc
    cases Nat.lt_one_iff.1 hj
    rfl

/-- **Refinement to the reference lexer.** For every well-formed definition the model compiles, every call
of the model of the generated `next()` (generated state code with inlining and state numbering, backtrack
elision, saved matches, `lexgen_util::Lexer`) from a lexer state at a lexeme start is a step of the REFERENCE
lexer of the definition, `RefNext` (Spec/RefLexer.lean), which is defined from the definition alone: regex
and right-context denotations, maximal munch with first-rule priority (`Selects`, a function:
`C01_selection_unique`), the semantic-action protocol, the end-of-input and error rules. Hence the sequence of
(rule, lexeme) pairs produced equals the maximal-munch reference tokenisation. -/
theorem C01_refines_reference (items : LexerDef) (c : Compiled) (h : compileLexer items = .ok c) (hok : DefOK items)
    (ctxAt : Nat → Regex) (hnum : CtxNumbering items ctxAt)
    (actions : Nat → Action σ τ ε) (width : Nat → Nat) (input : Option (List Nat))
    (st : LState σ) (hr : Ready (c.config actions width input) st)
    (r : Option (Item τ ε) × LState σ) (hn : next (c.config actions width input) st = some r) :
    RefNext items c ctxAt (c.config actions width input) st r :=
  next_refines_ref items c h hok ctxAt hnum actions width input st hr r hn

/-- maximal munch with first-rule priority selects at most one (length, rule, via-`$`) triple -/
theorem C01_selection_unique (rules : List CoreRule) (ctxAt : Nat → Regex) (iter : List Nat) (n a n' a' : Nat) (e e' : Bool)
    (h : Selects rules ctxAt iter n a e) (h' : Selects rules ctxAt iter n' a' e') : n = n' ∧ a = a' ∧ e = e' :=
  selects_unique rules ctxAt iter n a n' a' e e' h h'

/-- **The model of the generated code computes the executable specification.** For every well-formed definition without empty classes or empty string
literals that the model of `lexer()` compiles, every call of the model of the generated `next()` from a lexeme start returns exactly what the executable
reference lexer returns — same item, same lexer state — where the reference lexer (`specNext`, Exec/SpecRun.lean) works on the definition itself: Brzozowski
derivatives, maximal munch with first-rule priority, the semantic-action protocol, and after a failure "skip the longest viable prefix plus the offending
character". `specNext` is sound w.r.t. the relational specification `RefNext` and is also RUN against the real generated lexers on every check. -/
theorem C01_model_is_specification (items : LexerDef) (c : Compiled) (h : compileLexer items = .ok c) (hok : DefOK items) (hne : DefNE items)
    (actions : Nat → Action σ τ ε) (width : Nat → Nat) (input : Option (List Nat))
    (st : LState σ) (hr : Ready (c.config actions width input) st) :
    next (c.config actions width input) st = specNextFull items (c.config actions width input) st :=
  next_eq_specNext items c h hok hne actions width input st hr

/-- …and for whole runs: from a freshly constructed lexer, any number of calls of the model of the generated `next()` produce exactly the items (and the
final lexer state) of the executable reference lexer of the definition — the sequence of (rule, lexeme) pairs IS the reference tokenisation. -/
theorem C01_run_is_reference_tokenisation (items : LexerDef) (c : Compiled) (h : compileLexer items = .ok c) (hok : DefOK items) (hne : DefNE items)
    (actions : Nat → Action σ τ ε) (width : Nat → Nat) (input : Option (List Nat)) (user : σ) (chars : List Nat) (n : Nat) :
    runN (c.config actions width input) n (initState user chars) = specRunN items (c.config actions width input) n (initState user chars) :=
  run_fresh_eq_spec items c h hok hne actions width input user chars n

/-- **The machine the real macro produced computes the specification.** The theorems above are about the machine the MODEL of the macro compiles.
The correspondence check does not assume the real macro produces that machine: on every run it dumps the machine the macro really built for each
definition and evaluates `stageOK` on it (`lexmodel`, stage `stageok`): same rule-set names, product exploration `bisim` with the model's machine from
every entry, right-context automata pairwise bisimilar, the well-formedness checker `machineWF` (with the macro's own inlining set), no transition
into a state without transitions. For ANY machine passing that executable test — whatever its state numbers, inlining, table shapes — the model of the
generated `next()` running on THAT machine returns exactly what the executable reference lexer of the definition returns, for every input over Unicode
scalar values, after any number of calls. What remains trusted is that the generated Rust text behaves like the model interpreter on the dumped
machine (compared on every trace of every run). The conjunct `gotoLive` of `stageOK` is needed: `bisim` alone cannot tell an `Accept` transition from a transition into an
accepting state without transitions, and `InvalidToken` consumes one character more through the latter. -/
theorem C01_real_machine_is_specification (items : LexerDef) (c : Compiled) (h : compileLexer items = .ok c)
    (hok : DefOK items) (hne : DefNE items)
    (dfa : DFA Trans) (entries : List (String × Nat)) (ctxs : List (DFA Nat)) (inl : List Nat)
    (hs : stageOK c dfa entries ctxs inl = true)
    (actions : Nat → Action σ τ ε) (width : Nat → Nat) (input : Option (List Nat)) (user : σ) (chars : List Nat)
    (hch : ∀ ch ∈ chars, ch ≤ charMax) (n : Nat) :
    runN { dfa := dfa, ctxs := ctxs, entries := entries, inl := inl, actions := actions, width := width, input := input } n (initState user chars) =
      specRunN items { dfa := dfa, ctxs := ctxs, entries := entries, inl := inl, actions := actions, width := width, input := input } n (initState user chars) :=
  dumped_machine_runs_are_specification items c h hok hne dfa entries ctxs inl hs actions width input user chars hch n

/-- …and the stage check contains the well-formedness checker: every theorem of these files that assumes `MachineOK cfg` (dispatch C03, context
gating C04, end of input C05, locations C06, errors C07, recovery C08, termination C09, action protocol C10) applies to the machine the real
macro dumped. -/
theorem C01_stage_check_establishes_hypotheses (c : Compiled) (dfa : DFA Trans) (entries : List (String × Nat)) (ctxs : List (DFA Nat)) (inl : List Nat)
    (hs : stageOK c dfa entries ctxs inl = true) (actions : Nat → Action σ τ ε) (width : Nat → Nat) (input : Option (List Nat)) :
    MachineOK ({ dfa := dfa, ctxs := ctxs, entries := entries, inl := inl, actions := actions, width := width, input := input } : Config σ τ ε) := by
  obtain ⟨_, _, _, _, _, hwf, _, _⟩ := Dumped.stageOK_unpack c dfa entries ctxs inl hs
  exact machineOK_of_checker _ ctxs.length hwf

/-- non-vacuity of `stageOK` -/
example : ∃ c, compileLexer exDef = .ok c ∧ stageOK c c.dfa c.entries c.ctxs (inlinedStates c.dfa) = true := by
  have := exDef_stage
  cases h : compileLexer exDef with
  | error e => rw [h] at this; cases this
  | ok c =>
    rw [h] at this
    exact ⟨c, rfl, Option.some.inj this⟩

end Lexgen
