import LexgenModel.Generated.Tables
import LexgenModel.Generated.Predicates
import LexgenModel.Model.TableGen
/-! GENERATED by harness/extract_tables.py from /repo — do not edit.
    Obligations re-checked by the kernel on every run: each built-in table, as named by
    `BUILTIN_RANGES`/`get_ranges`, is canonical and equals the ranges of its Rust predicate
    (`Generated/Predicates.lean`, enumerated over all scalar values by harness/enum_preds). -/
namespace Lexgen.Generated

theorem table_eq_pred_alphabetic : table_ALPHABETIC = pred_alphabetic := rfl
theorem table_canonical_alphabetic : Lexgen.canonicalRanges table_ALPHABETIC = true := by decide +kernel
theorem table_eq_pred_alphanumeric : table_ALPHANUMERIC = pred_alphanumeric := rfl
theorem table_canonical_alphanumeric : Lexgen.canonicalRanges table_ALPHANUMERIC = true := by decide +kernel
theorem table_eq_pred_ascii : table_ASCII = pred_ascii := rfl
theorem table_canonical_ascii : Lexgen.canonicalRanges table_ASCII = true := by decide +kernel
theorem table_eq_pred_ascii_alphabetic : table_ASCII_ALPHABETIC = pred_ascii_alphabetic := rfl
theorem table_canonical_ascii_alphabetic : Lexgen.canonicalRanges table_ASCII_ALPHABETIC = true := by decide +kernel
theorem table_eq_pred_ascii_alphanumeric : table_ASCII_ALPHANUMERIC = pred_ascii_alphanumeric := rfl
theorem table_canonical_ascii_alphanumeric : Lexgen.canonicalRanges table_ASCII_ALPHANUMERIC = true := by decide +kernel
theorem table_eq_pred_ascii_control : table_ASCII_CONTROL = pred_ascii_control := rfl
theorem table_canonical_ascii_control : Lexgen.canonicalRanges table_ASCII_CONTROL = true := by decide +kernel
theorem table_eq_pred_ascii_digit : table_ASCII_DIGIT = pred_ascii_digit := rfl
theorem table_canonical_ascii_digit : Lexgen.canonicalRanges table_ASCII_DIGIT = true := by decide +kernel
theorem table_eq_pred_ascii_graphic : table_ASCII_GRAPHIC = pred_ascii_graphic := rfl
theorem table_canonical_ascii_graphic : Lexgen.canonicalRanges table_ASCII_GRAPHIC = true := by decide +kernel
theorem table_eq_pred_ascii_hexdigit : table_ASCII_HEXDIGIT = pred_ascii_hexdigit := rfl
theorem table_canonical_ascii_hexdigit : Lexgen.canonicalRanges table_ASCII_HEXDIGIT = true := by decide +kernel
theorem table_eq_pred_ascii_lowercase : table_ASCII_LOWERCASE = pred_ascii_lowercase := rfl
theorem table_canonical_ascii_lowercase : Lexgen.canonicalRanges table_ASCII_LOWERCASE = true := by decide +kernel
theorem table_eq_pred_ascii_punctuation : table_ASCII_PUNCTUATION = pred_ascii_punctuation := rfl
theorem table_canonical_ascii_punctuation : Lexgen.canonicalRanges table_ASCII_PUNCTUATION = true := by decide +kernel
theorem table_eq_pred_ascii_uppercase : table_ASCII_UPPERCASE = pred_ascii_uppercase := rfl
theorem table_canonical_ascii_uppercase : Lexgen.canonicalRanges table_ASCII_UPPERCASE = true := by decide +kernel
theorem table_eq_pred_ascii_whitespace : table_ASCII_WHITESPACE = pred_ascii_whitespace := rfl
theorem table_canonical_ascii_whitespace : Lexgen.canonicalRanges table_ASCII_WHITESPACE = true := by decide +kernel
theorem table_eq_pred_control : table_CONTROL = pred_control := rfl
theorem table_canonical_control : Lexgen.canonicalRanges table_CONTROL = true := by decide +kernel
theorem table_eq_pred_lowercase : table_LOWERCASE = pred_lowercase := rfl
theorem table_canonical_lowercase : Lexgen.canonicalRanges table_LOWERCASE = true := by decide +kernel
theorem table_eq_pred_numeric : table_NUMERIC = pred_numeric := rfl
theorem table_canonical_numeric : Lexgen.canonicalRanges table_NUMERIC = true := by decide +kernel
theorem table_eq_pred_uppercase : table_UPPERCASE = pred_uppercase := rfl
theorem table_canonical_uppercase : Lexgen.canonicalRanges table_UPPERCASE = true := by decide +kernel
theorem table_eq_pred_whitespace : table_WHITESPACE = pred_whitespace := rfl
theorem table_canonical_whitespace : Lexgen.canonicalRanges table_WHITESPACE = true := by decide +kernel
theorem table_eq_pred_XID_Start : table_XID_START = pred_XID_Start := rfl
theorem table_canonical_XID_Start : Lexgen.canonicalRanges table_XID_START = true := by decide +kernel
theorem table_eq_pred_XID_Continue : table_XID_CONTINUE = pred_XID_Continue := rfl
theorem table_canonical_XID_Continue : Lexgen.canonicalRanges table_XID_CONTINUE = true := by decide +kernel

theorem builtin_count : builtins.length = 20 := rfl

/-- every table reachable through the name map is canonical (no string comparison is evaluated) -/
theorem builtins_all_canonical : (builtins.all fun e => Lexgen.canonicalRanges e.2.2) = true := by
  simp only [builtins, List.all_cons, List.all_nil, Bool.and_true, table_canonical_alphabetic, table_canonical_alphanumeric, table_canonical_ascii, table_canonical_ascii_alphabetic, table_canonical_ascii_alphanumeric, table_canonical_ascii_control, table_canonical_ascii_digit, table_canonical_ascii_graphic, table_canonical_ascii_hexdigit, table_canonical_ascii_lowercase, table_canonical_ascii_punctuation, table_canonical_ascii_uppercase, table_canonical_ascii_whitespace, table_canonical_control, table_canonical_lowercase, table_canonical_numeric, table_canonical_uppercase, table_canonical_whitespace, table_canonical_XID_Start, table_canonical_XID_Continue]

end Lexgen.Generated
