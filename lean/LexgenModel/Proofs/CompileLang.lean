import LexgenModel.Proofs.RuleSetLang
import LexgenModel.Proofs.Simplify
import LexgenModel.Proofs.Backtrack
import LexgenModel.Spec.WellFormed
/-!
# The layout of the automaton `lexer()` builds: the language of every rule set survives the glue

`compile_blocks`: the automaton before `simplify` consists of one block per rule set, each the
automaton `compile_rule_set` built for it, placed (`Placed`) at the offset the entry map gives, with
nothing changed but shifted targets and `backtrack` flags. A property of a freshly compiled rule set
that survives `Placed` therefore holds of the result; `Block.lang` does this for `ruleSet_lang` and
takes it through `simplify_spec`.

That every transition target of `nfaToDfa nfa` is a state and that state 0 is `initial` holds for
EVERY NFA (`Subset.nfaToDfa_inRange`); the glue needs it for all rule sets of a definition at once,
also those whose regexes the hypothesis of the language theorem does not cover.
-/

namespace Lexgen

theorem allRuleSets_named {items : LexerDef} (h : hasRuleSets items = true) :
    allRuleSets items = scopedRuleSets items [] 0 := by
  unfold allRuleSets; rw [if_pos h]

theorem allRuleSets_unnamed {items : LexerDef} (h : hasRuleSets items = false) :
    allRuleSets items = [("", topRules items, [], 0)] := by
  unfold allRuleSets; rw [if_neg (by rw [h]; exact Bool.false_ne_true)]

namespace CompileLang
open Lexgen.Subset Lexgen.Simplify Lexgen.Static

theorem _root_.Lexgen.reachSym_append (d : DFA Nat) (u v : List Sym) :
    ∀ s, reachSym d s (u ++ v) = (reachSym d s u).bind (fun t => reachSym d t v) := by
  induction u with
  | nil => intro s; rfl
  | cons x u ih =>
    intro s
    simp only [List.cons_append, reachSym]
    cases stepD d s x with
    | none => rfl
    | some t => exact ih t

theorem reachSym_ch (d : DFA Nat) (w : List Nat) : ∀ s, reachSym d s (w.map Sym.ch) = reachN d s w := by
  induction w with
  | nil => intro s; rfl
  | cons x w ih =>
    intro s
    simp only [List.map_cons, reachSym, reachN, stepD]
    cases lookupTrans (d.st s) x with
    | none => rfl
    | some t => exact ih t

theorem reachSym_ch_eoi (d : DFA Nat) (w : List Nat) (s : Nat) :
    reachSym d s (w.map Sym.ch ++ [Sym.eoi]) = (reachN d s w).bind (fun t => (d.st t).eoi) := by
  rw [reachSym_append, reachSym_ch]
  congr 1
  funext t
  simp only [reachSym, stepD]
  cases (d.st t).eoi with
  | none => rfl
  | some _ => rfl

/-- what `ruleSet_lang` says of state 0 of a fresh automaton, said of the state `e` -/
def RealisesSym (d : DFA Nat) (e : Nat) (rules : List CoreRule) : Prop :=
  ∀ w : List Sym,
    match reachSym d e w with
    | some t => (d.st t).accepting = matchingAccs rules w
    | none => matchingAccs rules w = []

theorem lookupTrans_teq {s s' : DState Nat} (h : TEq s s') (c : Nat) : lookupTrans s c = lookupTrans s' c := by
  unfold lookupTrans
  rw [h.chars, h.ranges, h.any]

theorem succs_teq {s s' : DState Nat} (h : TEq s s') : DFA.succs s = DFA.succs s' := by
  unfold DFA.succs
  rw [h.chars, h.ranges, h.any, h.eoi]

theorem eoi_mem_succs {s : DState Nat} {t : Nat} (h : s.eoi = some t) : t ∈ DFA.succs s := by
  unfold DFA.succs
  rw [h]
  exact List.mem_append_right _ (List.mem_singleton.mpr rfl)

theorem st_initial_lt {d : DFA Nat} {s : Nat} (h : (d.st s).initial = true) : s < d.length := by
  refine Nat.lt_of_not_le fun hle => ?_
  rw [dst_eq_empty_of_le d hle] at h
  cases h

def Agree (d d' : DFA Nat) : Prop :=
  ∀ s, s < d.length → TEq (d'.st s) (d.st s) ∧ (d'.st s).initial = (d.st s).initial

theorem targets_agree {d d' : DFA Nat} (hT : TargetsInRange d) (hA : Agree d d') (hl : d'.length = d.length) :
    TargetsInRange d' := by
  intro s hs t ht
  rw [hl] at hs ⊢
  rw [succs_teq (hA s hs).1] at ht
  exact hT s hs t ht

theorem succs_shift (k : Nat) (s : DState Nat) : DFA.succs (shiftState k s) = (DFA.succs s).map (· + k) := by
  unfold DFA.succs shiftState RangeMap.mapVals
  simp only [List.map_append, List.map_map]
  cases s.any with
  | none =>
    cases s.eoi with
    | none => rfl
    | some b => rfl
  | some a =>
    cases s.eoi with
    | none => rfl
    | some b => rfl

theorem addDfa_targets (d other : DFA Nat) (hd : TargetsInRange d) (ho : TargetsInRange other) :
    TargetsInRange (addDfa d other).1 := by
  intro s hs t ht
  rw [(addDfa_spec d other).2.1]
  rcases addDfa_st_cases d other s hs with ⟨h, hst⟩ | ⟨k, hk, rfl, hst⟩
  · rw [hst] at ht
    exact Nat.lt_of_lt_of_le (hd s h t ht) (Nat.le_add_right _ _)
  · rw [hst, succs_shift] at ht
    obtain ⟨u, hu, rfl⟩ := List.mem_map.mp ht
    rw [Nat.add_comm]
    exact Nat.add_lt_add_left (ho k hk u hu) _

theorem addDfa_agree (d other : DFA Nat) : Agree d (addDfa d other).1 := by
  intro s hs
  rw [(addDfa_spec d other).2.2.1 s hs]
  exact ⟨TEq.rfl' _, rfl⟩

theorem shiftState_zero (s : DState Nat) : shiftState 0 s = s := by
  cases s
  simp [shiftState, RangeMap.mapVals]

/-- `dR` occupies the states `off, .., off + dR.length - 1` of `full` with its targets shifted by
`off`, up to the `backtrack` flags: what `add_dfa` creates and what both a further `add_dfa` and
`update_backtracks` preserve. -/
structure Placed (full : DFA Nat) (off : Nat) (dR : DFA Nat) : Prop where
  bound : off + dR.length ≤ full.length
  st : ∀ s, s < dR.length → TEq (full.st (off + s)) (shiftState off (dR.st s)) ∧
    (full.st (off + s)).initial = (dR.st s).initial

theorem placed_self (dR : DFA Nat) : Placed dR 0 dR := by
  refine ⟨by omega, fun s _ => ?_⟩
  rw [Nat.zero_add, shiftState_zero]
  exact ⟨TEq.rfl' _, rfl⟩

theorem placed_addDfa (d dR : DFA Nat) : Placed (addDfa d dR).1 d.length dR := by
  obtain ⟨_, hlen, _, hR⟩ := addDfa_spec d dR
  refine ⟨by omega, fun s hs => ?_⟩
  rw [hR s hs]
  exact ⟨TEq.rfl' _, rfl⟩

theorem Placed.agree {d d' dR : DFA Nat} {off : Nat} (h : Placed d off dR) (hA : Agree d d')
    (hl : d.length ≤ d'.length) : Placed d' off dR := by
  refine ⟨Nat.le_trans h.bound hl, fun s hs => ?_⟩
  obtain ⟨h1, h2⟩ := hA (off + s) (by have := h.bound; omega)
  obtain ⟨h3, h4⟩ := h.st s hs
  exact ⟨h1.trans h3, h2.trans h4⟩

theorem Placed.initial {full dR : DFA Nat} {off : Nat} (h : Placed full off dR)
    (h0 : (dR.st 0).initial = true) : (full.st off).initial = true := by
  have := (h.st 0 (st_initial_lt h0)).2
  rw [Nat.add_zero] at this
  rw [this]
  exact h0

theorem Placed.reachSym {full dR : DFA Nat} {off : Nat} (h : Placed full off dR) (hT : TargetsInRange dR)
    (w : List Sym) : ∀ s, s < dR.length →
      reachSym full (off + s) w = (reachSym dR s w).map (off + ·) ∧
      ∀ t, reachSym dR s w = some t → t < dR.length := by
  induction w with
  | nil =>
    intro s hs
    exact ⟨rfl, fun t ht => by cases ht; exact hs⟩
  | cons x w ih =>
    intro s hs
    have hstep : stepD full (off + s) x = (stepD dR s x).map (· + off) ∧
        ∀ u, stepD dR s x = some u → u < dR.length := by
      cases x with
      | ch c =>
        refine ⟨?_, fun u hu => hT s hs u (lookupTrans_mem_succs _ _ _ hu)⟩
        show lookupTrans _ c = _
        rw [lookupTrans_teq (h.st s hs).1, lookupTrans_shift]
        rfl
      | eoi => exact ⟨(h.st s hs).1.eoi, fun u hu => hT s hs u (eoi_mem_succs hu)⟩
    simp only [Lexgen.reachSym]
    rw [hstep.1]
    cases hu : stepD dR s x with
    | none => exact ⟨rfl, fun t ht => by cases ht⟩
    | some u =>
      have := ih u (hstep.2 u hu)
      rw [Nat.add_comm off u] at this
      exact this

theorem Placed.realises {full dR : DFA Nat} {off e : Nat} {rules : List CoreRule} (h : Placed full off dR)
    (hT : TargetsInRange dR) (he : e < dR.length) (hR : RealisesSym dR e rules) :
    RealisesSym full (off + e) rules := by
  intro w
  obtain ⟨h1, h2⟩ := h.reachSym hT w e he
  have := hR w
  rw [h1]
  cases hr : Lexgen.reachSym dR e w with
  | none => rw [hr] at this; exact this
  | some t =>
    rw [hr] at this
    show (full.st (off + t)).accepting = _
    rw [(h.st t (h2 t hr)).1.acc]
    exact this

theorem ctxCount_nil : ctxCount [] = 0 := rfl

theorem ctxCount_rule (r : SingleRule) (rest : List RuleOrBinding) :
    ctxCount (.rule r :: rest) = (if r.ctx.isSome = true then 1 else 0) + ctxCount rest := by
  unfold ctxCount
  rw [List.filter_cons]
  by_cases h : r.ctx.isSome = true
  · rw [if_pos h, if_pos h]
    exact Nat.add_comm _ 1
  · rw [if_neg h, if_neg h]
    exact (Nat.zero_add _).symm

theorem ctxCount_append (p q : List RuleOrBinding) : ctxCount (p ++ q) = ctxCount p + ctxCount q := by
  unfold ctxCount
  rw [List.filter_append, List.length_append]

theorem compileSingleRule_ctxs {n0 n1 : NFA} {r : SingleRule} {b : Bindings} {ctxs c1 : List (DFA Nat)}
    (h : compileSingleRule n0 r b ctxs = .ok (n1, c1)) :
    ctxs <+: c1 ∧ c1.length = ctxs.length + (if r.ctx.isSome = true then 1 else 0) := by
  obtain ⟨re, _, ⟨hc, rfl, _⟩ | ⟨c, i, hc, hn, _⟩⟩ := compileSingleRule_eq_ok.mp h
  · rw [hc]
    exact ⟨List.prefix_refl _, rfl⟩
  · obtain ⟨_, _, d, _, _, _, rfl, _⟩ := newRightCtx_eq_ok.mp hn
    rw [hc, List.length_append]
    exact ⟨List.prefix_append _ _, rfl⟩

theorem compileRuleSet_grow {rs : List RuleOrBinding} {b : Bindings} {ctxs ctxs' : List (DFA Nat)} {d : DFA Nat}
    (h : compileRuleSet rs b ctxs = .ok (d, ctxs')) :
    ctxs <+: ctxs' ∧ ctxs'.length = ctxs.length + ctxCount rs := by
  obtain ⟨nfa, b', hf, _⟩ := compileRuleSet_eq_ok.mp h
  have := foldlM_ok_inv (f := rsStep)
    (R := fun p acc => ctxs <+: acc.2.2 ∧ acc.2.2.length = ctxs.length + ctxCount p)
    (fun p acc x acc' hR hx => ?_) (p := []) ⟨List.prefix_refl _, rfl⟩ hf
  · exact this
  · cases x with
    | binding n re =>
      obtain ⟨_, rfl⟩ := rsStep_binding_eq_ok.mp hx
      rw [ctxCount_append]
      exact hR
    | rule r =>
      obtain ⟨n1, c1, hc, rfl⟩ := rsStep_rule_eq_ok.mp hx
      obtain ⟨h1, h2⟩ := compileSingleRule_ctxs hc
      refine ⟨hR.1.trans h1, ?_⟩
      rw [h2, hR.2, ctxCount_append, ctxCount_rule, ctxCount_nil, Nat.add_zero, Nat.add_assoc]

/-- a rule set with its name, the bindings in scope and the number of right contexts before it -/
abbrev Scoped := String × List RuleOrBinding × Bindings × Nat

theorem compileRuleSet_glue (rs : List RuleOrBinding) (b : Bindings) (ctxs : List (DFA Nat)) (dR : DFA Nat)
    (ctxs' : List (DFA Nat)) (h : compileRuleSet rs b ctxs = .ok (dR, ctxs')) :
    TargetsInRange dR ∧ (dR.st 0).initial = true ∧
    ∃ rules, coreRules rs b ctxs.length = some rules ∧
      ((∀ r ∈ rules, regexPiecesOK r.re) → RealisesSym dR 0 rules) := by
  obtain ⟨rules, nfa, h1, h2, h3⟩ := compileRuleSet_core rs b ctxs dR ctxs' h
  obtain ⟨h4, h5⟩ := Subset.nfaToDfa_inRange h3
  exact ⟨h4, h5, rules, h1, fun hre => ruleSet_lang rules hre nfa h2 dR h3⟩

theorem updateBacktracks_agree (d d' : DFA Nat) (hT : TargetsInRange d) (h : updateBacktracks d = some d') :
    Agree d d' ∧ d'.length = d.length := by
  obtain ⟨vis, hinv, _, rfl⟩ := Backtrack.updateBacktracks_some d d' hT h
  constructor
  · intro s hs
    rw [Backtrack.st_zipWith d vis hinv.len s]
    exact ⟨⟨rfl, rfl, rfl, rfl, rfl⟩, rfl⟩
  · rw [List.length_zipWith, hinv.len, Nat.min_self]

theorem finish_agree {d0 full : DFA Nat} (hT : TargetsInRange d0) (hu : updateBacktracks d0 = some full) :
    Agree d0 full ∧ full.length = d0.length ∧ TargetsInRange full := by
  obtain ⟨hA, hlen⟩ := updateBacktracks_agree d0 full hT hu
  exact ⟨hA, hlen, targets_agree hT hA hlen⟩

theorem not_removed_of_initial {d : DFA Nat} {s : Nat} (h : (d.st s).initial = true) :
    (emptyStates d).contains s = false := by
  rw [contains_emptyStates]
  simp only [Simplify.isEmpty, h, Bool.not_true, Bool.and_false]

section
variable (d : DFA Nat) (entries : List (String × Nat)) (d' : DFA Trans) (entries' : List (String × Nat))
  (h : simplify d entries = .ok (d', entries')) (hT : TargetsInRange d)
include h hT

theorem newIdx_entry_lt (e0 : Nat) (hi : (d.st e0).initial = true) : newIdx d e0 < d'.length :=
  ((simplify_spec d entries d' entries' h hT).2.2 e0 (st_initial_lt hi) (not_removed_of_initial hi)).1

theorem realises_simplify (e0 : Nat) (hi : (d.st e0).initial = true) (rules : List CoreRule)
    (hR : RealisesSym d e0 rules) : RealisesRules d' (newIdx d e0) rules := by
  have he := st_initial_lt hi
  intro w
  have h1 := hR (w.map Sym.ch)
  have h2 := hR (w.map Sym.ch ++ [Sym.eoi])
  rw [reachSym_ch] at h1
  rw [reachSym_ch_eoi] at h2
  rw [← cfgOf_kept (not_removed_of_initial hi), reach_cfg d entries d' entries' h hT w e0 he]
  cases hr : reachN d e0 w with
  | none =>
    rw [hr] at h1 h2
    exact ⟨h1, h2⟩
  | some t =>
    rw [hr] at h1 h2
    have ht := reachN_lt d hT w e0 he t hr
    show Auto.acc d' (cfgOf d t) = _ ∧ _
    refine ⟨(acc_cfg d entries d' entries' h hT t ht).trans h1, ?_⟩
    rw [eoi_cfg d entries d' entries' h hT t ht]
    rw [Option.bind_some] at h2
    cases hx : (d.st t).eoi with
    | none =>
      rw [hx] at h2
      exact h2
    | some t' =>
      rw [hx] at h2
      exact (acc_cfg d entries d' entries' h hT t' (hT t ht t' (eoi_mem_succs hx))).trans h2

end

/-- `dR` is the automaton of the scoped rule set `x`, compiled after some `x.2.2.2` right contexts
that are still a prefix of `ctxs`, and it sits in `full` at `e0` -/
def Block (full : DFA Nat) (ctxs : List (DFA Nat)) (e0 : Nat) (dR : DFA Nat) (x : Scoped) : Prop :=
  ∃ cpre ctxs', cpre.length = x.2.2.2 ∧ compileRuleSet x.2.1 x.2.2.1 cpre = .ok (dR, ctxs') ∧
    ctxs' <+: ctxs ∧ Placed full e0 dR

theorem Block.mono {d d' : DFA Nat} {ctxs ctxs' : List (DFA Nat)} {e0 : Nat} {dR : DFA Nat} {x : Scoped}
    (h : Block d ctxs e0 dR x) (hA : Agree d d') (hl : d.length ≤ d'.length) (hc : ctxs <+: ctxs') :
    Block d' ctxs' e0 dR x := by
  obtain ⟨cpre, c1, h1, h2, h3, h4⟩ := h
  exact ⟨cpre, c1, h1, h2, h3.trans hc, h4.agree hA hl⟩

theorem agree_refl (d : DFA Nat) : Agree d d := fun _ _ => ⟨TEq.rfl' _, rfl⟩

structure Built (L : List Scoped) (full : DFA Nat) (entries : List (String × Nat)) (ctxs : List (DFA Nat)) :
    Prop where
  init : ("Init", 0) ∈ entries
  tir : TargetsInRange full
  entry : ∀ x ∈ L, ∃ e0 dR, (x.1, e0) ∈ entries ∧ Block full ctxs e0 dR x
  named : ∀ p ∈ entries, ∃ x ∈ L, x.1 = p.1 ∧ ∃ dR, Block full ctxs p.2 dR x
  cover : ∀ s, s < full.length → ∃ x ∈ L, ∃ e0 dR, Block full ctxs e0 dR x ∧ e0 ≤ s ∧ s < e0 + dR.length

theorem Built.mono {L : List Scoped} {d d' : DFA Nat} {entries : List (String × Nat)} {ctxs ctxs' : List (DFA Nat)}
    (h : Built L d entries ctxs) (hA : Agree d d') (hl : d'.length = d.length) (hc : ctxs <+: ctxs') :
    Built L d' entries ctxs' := by
  have hle := Nat.le_of_eq hl.symm
  refine ⟨h.init, targets_agree h.tir hA hl, fun x hx => ?_, fun p hp => ?_, fun s hs => ?_⟩
  · obtain ⟨e0, dR, hm, hb⟩ := h.entry x hx
    exact ⟨e0, dR, hm, hb.mono hA hle hc⟩
  · obtain ⟨x, hx, hn, dR, hb⟩ := h.named p hp
    exact ⟨x, hx, hn, dR, hb.mono hA hle hc⟩
  · obtain ⟨x, hx, e0, dR, hb, hs⟩ := h.cover s (hl ▸ hs)
    exact ⟨x, hx, e0, dR, hb.mono hA hle hc, hs⟩

structure Blocks (L : List Scoped) (g : GlueState) : Prop where
  empty : g.initDfa = none → L = [] ∧ g.entries = []
  built : ∀ full, g.initDfa = some full → Built L full g.entries g.ctxs

theorem Blocks.mono {L : List Scoped} {g g' : GlueState} (h : Blocks L g) (hd : g'.initDfa = g.initDfa)
    (he : g'.entries = g.entries) (hc : g.ctxs <+: g'.ctxs) : Blocks L g' := by
  constructor
  · rw [hd, he]
    exact h.empty
  · intro full hf
    rw [hd] at hf
    rw [he]
    exact (h.built full hf).mono (agree_refl _) rfl hc

theorem Blocks.ruleSet {L : List Scoped} {g : GlueState} (h : Blocks L g) {n : String} {rs : List RuleOrBinding}
    {d full : DFA Nat} {ctxs : List (DFA Nat)} {idx : Nat}
    (hc : compileRuleSet rs g.bindings g.ctxs = .ok (d, ctxs))
    (hf : (g.entries.find? (·.1 = n)).isSome = false)
    (hcase : n = "Init" ∧ full = d ∧ idx = 0 ∨
      n ≠ "Init" ∧ ∃ d0, g.initDfa = some d0 ∧ full = (addDfa d0 d).1 ∧ idx = d0.length) :
    Blocks (L ++ [(n, rs, g.bindings, g.ctxs.length)])
      { g with initDfa := some full, ctxs := ctxs, entries := g.entries ++ [(n, idx)] } := by
  obtain ⟨hT, hI, _⟩ := compileRuleSet_glue rs _ _ d ctxs hc
  have hpre := (compileRuleSet_grow hc).1
  have hnew : ∀ {e0}, Placed full e0 d → Block full ctxs e0 d (n, rs, g.bindings, g.ctxs.length) :=
    fun hp => ⟨g.ctxs, ctxs, rfl, hc, List.prefix_refl _, hp⟩
  have hlast : ∀ {α : Type} {l : List α} {a : α}, a ∈ l ++ [a] :=
    List.mem_append_right _ (List.mem_singleton.mpr rfl)
  refine ⟨nofun, fun full' hfull => ?_⟩
  cases hfull
  show Built _ full (g.entries ++ [(n, idx)]) ctxs
  rcases hcase with ⟨rfl, rfl, rfl⟩ | ⟨hn, d0, hd, rfl, rfl⟩
  · -- the first rule set: a later `Init` would be a duplicate
    obtain ⟨rfl, he⟩ : L = [] ∧ g.entries = [] := by
      cases hi : g.initDfa with
      | none => exact h.empty hi
      | some d0 =>
        rw [List.find?_isSome.mpr ⟨_, (h.built d0 hi).init, decide_eq_true rfl⟩] at hf
        cases hf
    have hb := hnew (placed_self full)
    rw [he]
    refine ⟨hlast, hT, fun x hx => ?_, fun p hp => ?_, fun s hs => ?_⟩
    · cases List.mem_singleton.mp hx
      exact ⟨0, full, hlast, hb⟩
    · cases List.mem_singleton.mp hp
      exact ⟨_, hlast, rfl, full, hb⟩
    · exact ⟨_, hlast, 0, full, hb, Nat.zero_le _, by rw [Nat.zero_add]; exact hs⟩
  · have hB := h.built d0 hd
    have hA := addDfa_agree d0 d
    have hlen := (addDfa_spec d0 d).2.1
    have hle : d0.length ≤ (addDfa d0 d).1.length := hlen ▸ Nat.le_add_right _ _
    have hb := hnew (placed_addDfa d0 d)
    refine ⟨List.mem_append_left _ hB.init, addDfa_targets d0 d hB.tir hT, fun x hx => ?_, fun p hp => ?_,
      fun s hs => ?_⟩
    · rcases List.mem_append.mp hx with hx | hx
      · obtain ⟨e0, dR, hm, hb'⟩ := hB.entry x hx
        exact ⟨e0, dR, List.mem_append_left _ hm, hb'.mono hA hle hpre⟩
      · cases List.mem_singleton.mp hx
        exact ⟨d0.length, d, hlast, hb⟩
    · rcases List.mem_append.mp hp with hp | hp
      · obtain ⟨x, hx, hn', dR, hb'⟩ := hB.named p hp
        exact ⟨x, List.mem_append_left _ hx, hn', dR, hb'.mono hA hle hpre⟩
      · cases List.mem_singleton.mp hp
        exact ⟨_, hlast, rfl, d, hb⟩
    · by_cases hs0 : s < d0.length
      · obtain ⟨x, hx, e0, dR, hb', hs'⟩ := hB.cover s hs0
        exact ⟨x, List.mem_append_left _ hx, e0, dR, hb'.mono hA hle hpre, hs'⟩
      · exact ⟨_, hlast, d0.length, d, hb, Nat.le_of_not_lt hs0, hlen ▸ hs⟩

theorem hasRuleSets_append (p q : LexerDef) : hasRuleSets (p ++ q) = (hasRuleSets p || hasRuleSets q) :=
  List.any_append

theorem topRules_append (p q : LexerDef) : topRules (p ++ q) = topRules p ++ topRules q :=
  List.filterMap_append

/-- What a successful fold of `lexer()` over `p` has built. The list `L` of the scoped rule sets
seen is described by how `scopedRuleSets` continues after `p`, which gives `scopedRuleSets p` at
the end and lets a step append to `L` without a lemma about `scopedRuleSets` of a concatenation. -/
structure Laid (p : LexerDef) (g : GlueState) : Prop where
  rs : hasRuleSets p = false ↔ g.initDfa = none
  top : hasRuleSets p = false →
    (topRules p).foldlM rsStep (NFA.new, [], []) = .ok (g.unnamed, g.bindings, g.ctxs)
  blocks : ∃ L, (∀ rest, scopedRuleSets (p ++ rest) [] 0 = L ++ scopedRuleSets rest g.bindings g.ctxs.length) ∧
    Blocks L g

theorem Laid.skip {p : LexerDef} {g g' : GlueState} {x : TopItem} (h : Laid p g)
    (hx : hasRuleSets [x] = false) (hd : g'.initDfa = g.initDfa) (he : g'.entries = g.entries)
    (hc : g.ctxs <+: g'.ctxs)
    (htop : (topRules [x]).foldlM rsStep (g.unnamed, g.bindings, g.ctxs) = .ok (g'.unnamed, g'.bindings, g'.ctxs))
    (hs : ∀ rest, scopedRuleSets (x :: rest) g.bindings g.ctxs.length =
      scopedRuleSets rest g'.bindings g'.ctxs.length) : Laid (p ++ [x]) g' := by
  obtain ⟨h1, h2, L, hL, hB⟩ := h
  refine ⟨?_, fun hp => ?_, L, fun rest => ?_, hB.mono hd he hc⟩
  · rw [hasRuleSets_append, hx, Bool.or_false, hd]
    exact h1
  · rw [hasRuleSets_append, hx, Bool.or_false] at hp
    rw [topRules_append, List.foldlM_append, h2 hp]
    exact htop
  · rw [List.append_assoc, List.singleton_append, hL, hs]

theorem fold_laid {items : LexerDef} {g : GlueState} (h : items.foldlM lexStep {} = .ok g) :
    Laid items g := by
  refine lexFold_induction (R := Laid) (p0 := []) h ?_ ?_ ?_ ?_ ?_
  · exact ⟨⟨fun _ => rfl, fun _ => rfl⟩, fun _ => rfl, [], fun _ => rfl, fun _ => ⟨rfl, rfl⟩, nofun⟩
  · intro p g hinv _
    exact hinv.skip rfl rfl rfl (List.prefix_refl _) rfl fun _ => rfl
  · intro p g n re hinv hb
    refine hinv.skip rfl rfl rfl (List.prefix_refl _) ?_ fun _ => rfl
    exact foldlM_singleton_ok (rsStep_binding_eq_ok.mpr ⟨hb, rfl⟩)
  · intro p g r nfa ctxs hinv hc
    obtain ⟨hpre, hlen⟩ := compileSingleRule_ctxs hc
    refine hinv.skip rfl rfl rfl hpre ?_ fun rest => ?_
    · exact foldlM_singleton_ok (rsStep_rule_eq_ok.mpr ⟨nfa, ctxs, hc, rfl⟩)
    · show _ = scopedRuleSets rest g.bindings ctxs.length
      rw [hlen]
      rfl
  · intro p g n rs d ctxs full idx ⟨_, _, L, hL, hB⟩ hc hf hcase
    have hrs : hasRuleSets (p ++ [.ruleSet n rs]) = true := by
      rw [hasRuleSets_append]
      exact Bool.or_true _
    refine ⟨?_, ?_, _, fun rest => ?_, hB.ruleSet hc hf hcase⟩
    · rw [hrs]
      exact ⟨nofun, nofun⟩
    · rw [hrs]
      exact nofun
    · rw [List.append_assoc, List.append_assoc, hL]
      show _ = L ++ ((n, rs, g.bindings, g.ctxs.length) :: scopedRuleSets rest g.bindings ctxs.length)
      rw [(compileRuleSet_grow hc).2]
      rfl


/-- The structure of what `lexer()` returns: `c.full` is made of one block per rule set — the named
ones entered where `c.entries0` says, `Init` at 0, or the single unnamed one at 0 — and `simplify`
of it gives the machine. -/
theorem compile_blocks {items : LexerDef} {c : Compiled} (h : compileLexer items = .ok c) :
    TargetsInRange c.full ∧ simplify c.full c.entries0 = .ok (c.dfa, c.entries) ∧
    (∀ x ∈ scopedRuleSets items [] 0, ∃ e0 dR, (x.1, e0) ∈ c.entries0 ∧ Block c.full c.ctxs e0 dR x) ∧
    (hasRuleSets items = false →
      c.entries0 = [] ∧ ∃ dR, Block c.full c.ctxs 0 dR ("", topRules items, [], 0)) ∧
    (∀ s, s < c.full.length →
      ∃ x ∈ allRuleSets items, ∃ e0 dR, Block c.full c.ctxs e0 dR x ∧ e0 ≤ s ∧ s < e0 + dR.length) ∧
    (∀ p ∈ c.entries0, ∃ x ∈ allRuleSets items, x.1 = p.1 ∧ ∃ dR, Block c.full c.ctxs p.2 dR x) ∧
    (hasRuleSets items = true → ("Init", 0) ∈ c.entries0) := by
  obtain ⟨_, g, d0, hfold, hd, hu, hs, he, hc⟩ := compileLexer_ok_decomp h
  obtain ⟨h1, h2, L, hL, hB⟩ := fold_laid hfold
  have hL' : scopedRuleSets items [] 0 = L := by
    have := hL []
    rwa [List.append_nil, scopedRuleSets, List.append_nil] at this
  rw [he, hc, hL']
  rcases hd with hd | ⟨hd, hn⟩
  · obtain ⟨hA, hlen, _⟩ := finish_agree (hB.built d0 hd).tir hu
    have hF := (hB.built d0 hd).mono hA hlen (List.prefix_refl _)
    have hrs : hasRuleSets items = true := by
      cases hh : hasRuleSets items with
      | true => rfl
      | false => rw [h1.mp hh] at hd; cases hd
    have hall : allRuleSets items = L := by
      unfold allRuleSets
      rw [if_pos hrs, hL']
    rw [hall]
    exact ⟨hF.tir, hs, hF.entry, fun hno => (by rw [hno] at hrs; cases hrs), hF.cover, hF.named, fun _ => hF.init⟩
  · have hno := h1.mpr hd
    obtain ⟨hLe, hent⟩ := hB.empty hd
    obtain ⟨hT0, _⟩ := Subset.nfaToDfa_inRange hn
    obtain ⟨hA, hlen, hT⟩ := finish_agree hT0 hu
    have hb : Block c.full g.ctxs 0 d0 ("", topRules items, [], 0) :=
      ⟨[], g.ctxs, rfl, compileRuleSet_eq_ok.mpr ⟨_, _, h2 hno, hn⟩, List.prefix_refl _,
        (placed_self d0).agree hA (Nat.le_of_eq hlen.symm)⟩
    have hall : allRuleSets items = [("", topRules items, [], 0)] := by
      unfold allRuleSets
      rw [hno]
      rfl
    rw [hent] at hs
    rw [hall, hLe, hent]
    exact ⟨hT, hs, nofun, fun _ => ⟨rfl, d0, hb⟩,
      fun s hs => ⟨_, List.mem_singleton.mpr rfl, 0, d0, hb, Nat.zero_le _, by rw [Nat.zero_add, ← hlen]; exact hs⟩,
      nofun, fun h => (by rw [hno] at h; cases h)⟩

theorem Block.lang {full dR : DFA Nat} {ctxs : List (DFA Nat)} {e0 : Nat} {x : Scoped}
    {entries entries' : List (String × Nat)} {d' : DFA Trans} (hB : Block full ctxs e0 dR x)
    (hT : TargetsInRange full) (hs : simplify full entries = .ok (d', entries')) :
    newIdx full e0 < d'.length ∧ ∃ rules, coreRules x.2.1 x.2.2.1 x.2.2.2 = some rules ∧
      ((∀ r ∈ rules, regexPiecesOK r.re) → RealisesRules d' (newIdx full e0) rules) := by
  obtain ⟨cpre, c1, hk, hc, _, hP⟩ := hB
  obtain ⟨hTR, hI, rules, hcore, hreal⟩ := compileRuleSet_glue _ _ _ _ _ hc
  have hi := hP.initial hI
  rw [hk] at hcore
  refine ⟨newIdx_entry_lt full entries d' entries' hs hT e0 hi, rules, hcore, fun hre => ?_⟩
  exact realises_simplify full entries d' entries' hs hT e0 hi rules
    (hP.realises hTR (st_initial_lt hI) (hreal hre))

end CompileLang

open CompileLang Static in
/-- End to end through `lexer()`: for every rule set of an accepted definition, the compiled
machine, started at the entry state the entry map gives for that rule set's NAME, accepts after
every word exactly the rules of THAT rule set whose regex denotes the word, in rule order (with the
variables in scope substituted and the right contexts numbered as the macro numbers them) — also
through the end-of-input symbol — whatever was concatenated, removed or renumbered on the way. -/
theorem compileLexer_lang (items : LexerDef) (c : Compiled) (h : compileLexer items = .ok c)
    (name : String) (rs : List RuleOrBinding) (b : Bindings) (k : Nat)
    (hmem : (name, rs, b, k) ∈ scopedRuleSets items [] 0) :
    ∃ e rules, (name, e) ∈ c.entries ∧ e < c.dfa.length ∧ coreRules rs b k = some rules ∧
      ((∀ r ∈ rules, regexPiecesOK r.re) → RealisesRules c.dfa e rules) := by
  obtain ⟨hT, hs, h3, _⟩ := compile_blocks h
  obtain ⟨e0, dR, hm, hb⟩ := h3 _ hmem
  obtain ⟨hlt, rules, hcore, hreal⟩ := hb.lang hT hs
  refine ⟨newIdx c.full e0, rules, ?_, hlt, hcore, hreal⟩
  rw [(Simplify.simplify_ok _ _ _ _ hs).2]
  exact List.mem_map.mpr ⟨(name, e0), hm, rfl⟩

/-! ## A definition without named rule sets

`compileLexer_lang` is vacuous for a definition that has no `rule X { .. }` block. For such a
definition the macro folds `compile_single_rule` over the top-level rules into one unnamed NFA,
determinises it, and runs `update_backtracks` and `simplify` with an empty entry map: in
`compile_blocks` the whole automaton is the single block of `topRules items`. -/

open CompileLang Static in
theorem compileLexer_unnamed_core (items : LexerDef) (c : Compiled) (h : compileLexer items = .ok c)
    (hno : hasRuleSets items = false) :
    c.entries0 = [] ∧ c.entries = [] ∧
    ∃ rules nfa d0, coreRules (topRules items) [] 0 = some rules ∧ buildNfa rules = .ok nfa ∧
      nfaToDfa nfa = some d0 ∧ updateBacktracks d0 = some c.full ∧ simplify c.full [] = .ok (c.dfa, c.entries) := by
  obtain ⟨_, g, d0, hfold, hd, hu, hs, he, _⟩ := compileLexer_ok_decomp h
  obtain ⟨h1, h2, L, _, hB⟩ := fold_laid hfold
  have hi := h1.mp hno
  rcases hd with hd | ⟨_, hn⟩
  · rw [hi] at hd; cases hd
  obtain ⟨rules, nfa, hr, hb, hnd⟩ :=
    compileRuleSet_core _ _ _ _ _ (compileRuleSet_eq_ok.mpr ⟨_, _, h2 hno, hn⟩)
  rw [(hB.empty hi).2] at hs he
  refine ⟨he, ?_, rules, nfa, d0, hr, hb, hnd, hu, hs⟩
  rw [(Simplify.simplify_ok _ _ _ _ hs).2]
  rfl

open CompileLang Static in
theorem compileLexer_lang_unnamed (items : LexerDef) (c : Compiled) (h : compileLexer items = .ok c)
    (hno : hasRuleSets items = false) :
    0 < c.dfa.length ∧ ∃ rules, coreRules (topRules items) [] 0 = some rules ∧
      ((∀ r ∈ rules, regexPiecesOK r.re) → RealisesRules c.dfa 0 rules) := by
  obtain ⟨hT, hs, _, h4, _⟩ := compile_blocks h
  obtain ⟨_, dR, hb⟩ := h4 hno
  have := hb.lang hT hs
  rw [Simplify.newIdx_zero] at this
  exact this

end Lexgen
