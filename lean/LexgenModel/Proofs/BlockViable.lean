import LexgenModel.Spec.Viable
import LexgenModel.Proofs.RuleSetLang
import LexgenModel.Proofs.BlockShape
import LexgenModel.Proofs.CompileLang
import LexgenModel.Proofs.CtxFn
/-!
# The DFA of a rule set is trim (`block_viable`)

The Thompson NFA is *co-reachable*: every state `addRe re cur cont` allocates (and
`cur`) has a path to `cont` when no piece of the regex is empty (`addRe_coreach`). Through the fold
of `add_regex` this gives `TrimInv`: every state reachable from 0 other than 0 itself lies on a
path spelling a word of some rule.
-/
namespace Lexgen
namespace BlockViable
open Thompson

theorem den_nonempty (re : Regex) (h : NoEmptyPieces re) : ∃ w, den re w := by
  induction re with
  | builtin | diff =>
    obtain ⟨c, hc⟩ := h
    exact ⟨[.ch c], c, rfl, hc⟩
  | var n => cases h
  | chr c => exact ⟨[.ch c], rfl⟩
  | str cs => exact ⟨cs.map Sym.ch, h, rfl⟩
  | set items =>
    obtain ⟨c, it, hit, hc⟩ := h
    exact ⟨[.ch c], c, rfl, it, hit, hc⟩
  | star r ih => exact ⟨[], Star.nil⟩
  | plus r ih =>
    obtain ⟨w, hw⟩ := ih h
    exact ⟨w, w, [], by simp, hw, Star.nil⟩
  | opt r ih => exact ⟨[], Or.inl rfl⟩
  | cat a b iha ihb =>
    obtain ⟨u, hu⟩ := iha h.1
    obtain ⟨v, hv⟩ := ihb h.2
    exact ⟨u ++ v, u, v, rfl, hu, hv⟩
  | alt a b iha ihb =>
    obtain ⟨u, hu⟩ := iha h.1
    exact ⟨u, Or.inl hu⟩
  | any => exact ⟨[.ch 0], 0, rfl⟩
  | eoi => exact ⟨[.eoi], rfl⟩

def Reach (n : NFA) (u t : Nat) : Prop := ∃ v, Path (Edge n) u v t

theorem Reach.trans {n : NFA} {a b c : Nat} (h1 : Reach n a b) (h2 : Reach n b c) : Reach n a c := by
  obtain ⟨u, hu⟩ := h1
  obtain ⟨v, hv⟩ := h2
  exact ⟨u ++ v, Path.trans hu hv⟩

theorem Reach.mono {n n' : NFA} (h : ∀ a x b, Edge n a x b → Edge n' a x b) {a b : Nat} (r : Reach n a b) :
    Reach n' a b :=
  r.imp fun _ hv => Path.mono h hv

theorem Reach.edge {n : NFA} {a b : Nat} {x : Option Sym} (h : Edge n a x b) : Reach n a b :=
  ⟨_, Path.step h (Path.refl b)⟩

theorem gadget_cur_reach {n n' : NFA} {cur cont : Nat} {L : List Sym → Prop} (g : Gadget n n' cur cont L)
    (hcont : cont < n.length) {w : List Sym} (hw : L w) : Reach n' cur cont :=
  ⟨w, (g.paths w cont hcont).mpr (Or.inr ⟨rfl, hw⟩)⟩

theorem Reach.refl (n : NFA) (a : Nat) : Reach n a a := ⟨[], Path.refl a⟩

/-- An ε-transition added from an existing state is an edge, and keeps all paths; the length is
compared with that of `n0`, the NFA before a series of such additions. -/
theorem addEps_reach {n0 n n' : NFA} {s t : Nat} (h : n.addEmptyTransition s t = .ok n')
    (hl : n.length = n0.length) (hs : s < n0.length) :
    n'.length = n0.length ∧ Reach n' s t ∧ ∀ {a b : Nat}, Reach n a b → Reach n' a b :=
  have st := step_addEps h (hl ▸ hs)
  ⟨st.len.trans hl, Reach.edge ((st.edges _ _ _).mpr (Or.inr ⟨rfl, rfl, rfl⟩)), fun r => r.mono fun a x b he => (st.edges a x b).mpr (Or.inl he)⟩

def CoReach (n n' : NFA) (cont : Nat) : Prop :=
  ∀ u, n.length ≤ u → u < n'.length → Reach n' u cont

theorem coReach_of_len {n n' : NFA} (cont : Nat) (h : n'.length = n.length) : CoReach n n' cont :=
  fun _ h1 h2 => absurd (h ▸ h2) (Nat.not_lt.mpr h1)

theorem CoReach.comp {n0 n1 n2 : NFA} {k cont : Nat} (ca : CoReach n0 n1 k)
    (mono : ∀ {a b : Nat}, Reach n1 a b → Reach n2 a b) (hk : Reach n2 k cont) (cb : CoReach n1 n2 cont) :
    CoReach n0 n2 cont := by
  intro u h1 h2
  by_cases hu : u < n1.length
  · exact (mono (ca u h1 hu)).trans hk
  · exact cb u (Nat.le_of_not_lt hu) h2

theorem CoReach.fresh1 {n n' : NFA} {cont : Nat} (h0 : Reach n' n.length cont)
    (c : CoReach n.newState.1 n' cont) : CoReach n n' cont := by
  intro u h1 h2
  rcases Nat.eq_or_lt_of_le h1 with rfl | h
  · exact h0
  · exact c u (by rw [length_newState]; exact h) h2

theorem CoReach.fresh2 {n n' : NFA} {cont : Nat} (h0 : Reach n' n.length cont)
    (h1 : Reach n' (n.length + 1) cont) (c : CoReach n.newState.1.newState.1 n' cont) : CoReach n n' cont :=
  CoReach.fresh1 h0 (CoReach.fresh1 (by rw [length_newState]; exact h1) c)

theorem len_addRangeTransitions (n : NFA) (s : Nat) (m : RangeMap Unit) (t : Nat) :
    (n.addRangeTransitions s m t).length = n.length := by
  unfold NFA.addRangeTransitions
  exact List.length_modify _ _ _

theorem addStr_coreach (cs : List Nat) : ∀ (cur cont : Nat) (n n' : NFA), Pre n cur cont →
    NFA.addStr cs cur cont n = .ok n' → CoReach n n' cont := by
  induction cs with
  | nil =>
    intro cur cont n n' hp h
    simp only [NFA.addStr] at h
    cases h
    exact coReach_of_len cont rfl
  | cons c rest ih =>
    intro cur cont n n' hp h
    cases rest with
    | nil =>
      simp only [NFA.addStr] at h
      exact coReach_of_len cont (step_addChar h hp.hcur).len
    | cons c' cs =>
      obtain ⟨n1, h1, h⟩ := addStr_cons_cons_ok h
      have pa := hp.freshCont
      have st := step_addChar h1 pa.hcur
      have pb := pre_cat_b hp (st.gadget pa (by simp))
      have gb := addStr_gadget (c' :: cs) n.length cont n1 n' pb h
      exact CoReach.fresh1 (gadget_cur_reach gb pb.hcont (w := (c' :: cs).map Sym.ch) ⟨by simp, rfl⟩)
        fun u h1 h2 => ih n.length cont n1 n' pb h u (st.len ▸ h1) h2

theorem addRe_coreach (re : Regex) : ∀ (cur cont : Nat) (n n' : NFA), Pre n cur cont → regexPiecesOK re →
    NoEmptyPieces re → NFA.addRe re cur cont n = .ok n' → CoReach n n' cont := by
  induction re with
  | builtin | diff =>
    intro cur cont n n' hp _ _ h
    obtain ⟨m, _, rfl⟩ := addRe_class_ok h trivial
    exact coReach_of_len cont (len_addRangeTransitions _ _ _ _)
  | var name =>
    intro cur cont n n' _ _ _ h
    cases h
  | chr c =>
    intro cur cont n n' hp _ _ h
    exact coReach_of_len cont (step_addChar h hp.hcur).len
  | str cs =>
    intro cur cont n n' hp _ _ h
    exact addStr_coreach cs cur cont n n' hp h
  | set items =>
    intro cur cont n n' hp hre _ h
    have st := addSet_step items [] cur cont n n' hp.hcur (hp.wf.rangesWF cur hp.hcur) hre
      (fun c hc => by cases hc) h
    exact coReach_of_len cont st.len
  | star r ih =>
    intro cur cont n n' hp hre hne h
    obtain ⟨n1, n2, n3, n4, h1, h2, h3, h4, h⟩ := addRe_star_ok h
    have p := hp.fresh2
    have g := addRe_gadget r n.length (n.length + 1) _ n1 p hre h1
    obtain ⟨w0, hw0⟩ := den_nonempty r hne
    have hcur : cur < n1.length := Nat.lt_of_lt_of_le (Nat.lt_trans hp.hcur p.hcur) g.frame.len
    have hk : n.length + 1 < n1.length := Nat.lt_of_lt_of_le p.hcont g.frame.len
    obtain ⟨l2, _, m2⟩ := addEps_reach h2 rfl hcur
    obtain ⟨l3, _, m3⟩ := addEps_reach h3 l2 hcur
    obtain ⟨l4, e4, m4⟩ := addEps_reach h4 l3 hk
    obtain ⟨l5, _, m5⟩ := addEps_reach h l4 hk
    have mono : ∀ {a b : Nat}, Reach n1 a b → Reach n' a b := fun r => m5 (m4 (m3 (m2 r)))
    have c := CoReach.comp (ih _ _ _ n1 p hre hne h1) mono (m5 e4) (coReach_of_len cont l5)
    exact CoReach.fresh2 ((mono (gadget_cur_reach g p.hcont hw0)).trans (m5 e4)) (m5 e4) c
  | plus r ih =>
    intro cur cont n n' hp hre hne h
    obtain ⟨n1, n2, n3, h1, h2, h3, h⟩ := addRe_plus_ok h
    have p := hp.fresh2
    have g := addRe_gadget r n.length (n.length + 1) _ n1 p hre h1
    obtain ⟨w0, hw0⟩ := den_nonempty r hne
    have hcur : cur < n1.length := Nat.lt_of_lt_of_le (Nat.lt_trans hp.hcur p.hcur) g.frame.len
    have hk : n.length + 1 < n1.length := Nat.lt_of_lt_of_le p.hcont g.frame.len
    obtain ⟨l2, _, m2⟩ := addEps_reach h2 rfl hcur
    obtain ⟨l3, e3, m3⟩ := addEps_reach h3 l2 hk
    obtain ⟨l4, _, m4⟩ := addEps_reach h l3 hk
    have mono : ∀ {a b : Nat}, Reach n1 a b → Reach n' a b := fun r => m4 (m3 (m2 r))
    have c := CoReach.comp (ih _ _ _ n1 p hre hne h1) mono (m4 e3) (coReach_of_len cont l4)
    exact CoReach.fresh2 ((mono (gadget_cur_reach g p.hcont hw0)).trans (m4 e3)) (m4 e3) c
  | opt r ih =>
    intro cur cont n n' hp hre hne h
    obtain ⟨n1, n2, h1, h2, h⟩ := addRe_opt_ok h
    have p := hp.freshCur
    have g := addRe_gadget r n.length cont _ n1 p hre h1
    obtain ⟨w0, hw0⟩ := den_nonempty r hne
    have hcur : cur < n1.length := Nat.lt_of_lt_of_le (Nat.lt_trans hp.hcur p.hcur) g.frame.len
    obtain ⟨l2, _, m2⟩ := addEps_reach h2 rfl hcur
    obtain ⟨l3, _, m3⟩ := addEps_reach h l2 hcur
    have mono : ∀ {a b : Nat}, Reach n1 a b → Reach n' a b := fun r => m3 (m2 r)
    have c := CoReach.comp (ih _ _ _ n1 p hre hne h1) mono (Reach.refl _ _) (coReach_of_len cont l3)
    exact CoReach.fresh1 (mono (gadget_cur_reach g p.hcont hw0)) c
  | cat a b iha ihb =>
    intro cur cont n n' hp hre hne h
    obtain ⟨n1, h1, h⟩ := addRe_cat_ok h
    have ga := addRe_gadget a cur n.length _ n1 hp.freshCont hre.1 h1
    have pb := pre_cat_b hp ga
    have gb := addRe_gadget b n.length cont n1 n' pb hre.2 h
    obtain ⟨wb, hwb⟩ := den_nonempty b hne.2
    have RN : Reach n' n.length cont := gadget_cur_reach gb pb.hcont hwb
    exact CoReach.fresh1 RN (CoReach.comp (iha _ _ _ n1 hp.freshCont hre.1 hne.1 h1)
      (fun r => r.mono (gb.frame.mono pb.vcur)) RN (ihb _ _ n1 n' pb hre.2 hne.2 h))
  | alt a b iha ihb =>
    intro cur cont n n' hp hre hne h
    obtain ⟨n1, n2, n3, h1, h2, h3, h⟩ := addRe_alt_ok h
    have p := hp.freshCur2
    have ga := addRe_gadget a n.length cont _ n1 p hre.1 h1
    have pb := pre_alt_b hp ga
    have gb := addRe_gadget b (n.length + 1) cont n1 n2 pb hre.2 h2
    obtain ⟨wa, hwa⟩ := den_nonempty a hne.1
    obtain ⟨wb, hwb⟩ := den_nonempty b hne.2
    have hcur : cur < n2.length :=
      Nat.lt_of_lt_of_le (Nat.lt_trans hp.hcur p.hcur) (Nat.le_trans ga.frame.len gb.frame.len)
    obtain ⟨l3, _, m3⟩ := addEps_reach h3 rfl hcur
    obtain ⟨l4, _, m4⟩ := addEps_reach h l3 hcur
    have mono : ∀ {a b : Nat}, Reach n2 a b → Reach n' a b := fun r => m4 (m3 r)
    have frame : ∀ {a b : Nat}, Reach n1 a b → Reach n2 a b := fun r => r.mono (gb.frame.mono pb.vcur)
    have c := CoReach.comp
      (CoReach.comp (iha _ _ _ n1 p hre.1 hne.1 h1) frame (Reach.refl _ _) (ihb _ _ n1 n2 pb hre.2 hne.2 h2))
      mono (Reach.refl _ _) (coReach_of_len cont l4)
    exact CoReach.fresh2 (mono (frame (gadget_cur_reach ga p.hcont hwa)))
      (mono (gadget_cur_reach gb pb.hcont hwb)) c
  | any =>
    intro cur cont n n' hp _ _ h
    exact coReach_of_len cont (step_addAny h hp.hcur).len
  | eoi =>
    intro cur cont n n' hp _ _ h
    exact coReach_of_len cont (step_addEoi h hp.hcur).len

/-- every state `add_regex` allocates (other than the accepting one) reaches the accepting state -/
theorem addRegex_coreach (nfa : NFA) (hwf : NFAWF nfa) (re : Regex) (hre : regexPiecesOK re)
    (hne : NoEmptyPieces re) (ctx : Option Nat) (value : Nat) (nfa' : NFA)
    (h : nfa.addRegex re ctx value = .ok nfa') :
    ∀ u, nfa.length < u → u < nfa'.length → ∃ v, NPath nfa' u v nfa.length := by
  obtain ⟨n2, n4, h2, h4, h5⟩ := addRegex_unfold h
  have p := prep hwf h2 h4
  have hp := pre_of_prep p
  have g := addRe_gadget re _ _ n4 nfa' hp hre h5
  have cr := addRe_coreach re _ _ n4 nfa' hp hre hne h5
  have hl4 := p.len
  obtain ⟨w0, hw0⟩ := den_nonempty re hne
  intro u hu1 hu2
  have hr : Reach nfa' u nfa.length := by
    by_cases hu : u = nfa.length + 1
    · subst hu; exact gadget_cur_reach g hp.hcont hw0
    · exact cr u (by omega) hu2
  obtain ⟨v, hv⟩ := hr
  exact ⟨v, (npath_iff_path _ _ _ _).mpr hv⟩

def TrimInv (rules : List CoreRule) (n : NFA) : Prop :=
  ∀ w u, NPath n 0 w u → u ≠ 0 → ∃ r ∈ rules, ∃ v, den r.re (w ++ v)

theorem npath_trans {n : NFA} {a b c : Nat} {u v : List Sym} (h1 : NPath n a u b) (h2 : NPath n b v c) :
    NPath n a (u ++ v) c :=
  (npath_iff_path _ _ _ _).mpr (Path.trans ((npath_iff_path _ _ _ _).mp h1) ((npath_iff_path _ _ _ _).mp h2))

theorem trim_new : TrimInv [] NFA.new := by
  intro w u hp hu
  have := RuleSetLang.npath_lt wf_new hp
  simp only [NFA.new, List.length_singleton] at this
  omega

theorem trim_step {pre : List CoreRule} {n n' : NFA} (hb : RuleSetLang.Built pre n) (ht : TrimInv pre n)
    (r : CoreRule) (hre : regexPiecesOK r.re) (hne : NoEmptyPieces r.re)
    (h : n.addRegex r.re r.ctx r.value = .ok n') : TrimInv (pre ++ [r]) n' := by
  obtain ⟨wf', hlen, hacc, hden, haccOld, hpathOld, haccNew⟩ :=
    addRegex_correct n hb.wf hb.shape r.re hre r.ctx r.value n' h
  have hco := addRegex_coreach n hb.wf r.re hre hne r.ctx r.value n' h
  intro w u hp hu0
  by_cases hu : u < n.length
  · obtain ⟨r', hr', v, hv⟩ := ht w u ((hpathOld u w hu).mp hp) hu0
    exact ⟨r', List.mem_append_left _ hr', v, hv⟩
  · refine ⟨r, List.mem_append_right _ (List.mem_singleton.mpr rfl), ?_⟩
    by_cases hu' : u = n.length
    · subst hu'
      exact ⟨[], by rw [List.append_nil]; exact (hden w).mp hp⟩
    · obtain ⟨v, hv⟩ := hco u (by omega) (RuleSetLang.npath_lt wf' hp)
      exact ⟨v, (hden (w ++ v)).mp (npath_trans hp hv)⟩

theorem trim_buildNfa (rules : List CoreRule) (hre : ∀ r ∈ rules, regexPiecesOK r.re)
    (hne : ∀ r ∈ rules, NoEmptyPieces r.re) (nfa : NFA) (h : buildNfa rules = .ok nfa) : TrimInv rules nfa :=
  (RuleSetLang.buildNfa_ind (fun pre n => RuleSetLang.Built pre n ∧ TrimInv pre n) rules
    ⟨RuleSetLang.built_new, trim_new⟩
    (fun _ _ r _ hr hI h => ⟨RuleSetLang.built_step hI.1 r (hre r hr) h,
      trim_step hI.1 hI.2 r (hre r hr) (hne r hr) h⟩) h).2

theorem stepD_none_of_noTrans (d : DFA Nat) (t : Nat) (h : DFA.hasNoTransitions (d.st t) = true) (x : Sym) :
    stepD d t x = none := by
  obtain ⟨h1, h2, h3, h4⟩ := (DFA.hasNoTransitions_iff _).mp h
  cases x with
  | ch c => simp only [stepD, lookupTrans, h1, h2, h3, lookupChar, RangeMap.lookup]
  | eoi => simp only [stepD, h4]

theorem exists_step {nfa : NFA} (hwf : NFAWF nfa) (htne : Subset.TargetsNonempty nfa) {s : Nat}
    (hs : s < nfa.length)
    (h : ¬ ((nfa.st s).chars = [] ∧ (nfa.st s).ranges = [] ∧ (nfa.st s).any = [] ∧ (nfa.st s).eoi = [])) :
    ∃ x u, NFA.stepSym nfa s x u := by
  rcases Classical.not_and_iff_not_or_not.mp h with h | h
  · obtain ⟨e, he⟩ := List.exists_mem_of_ne_nil _ h
    obtain ⟨b, hb⟩ := List.exists_mem_of_ne_nil _ ((htne s hs).1 e he)
    exact ⟨.ch e.1, b, Or.inl ⟨e.2, he, hb⟩⟩
  rcases Classical.not_and_iff_not_or_not.mp h with h | h
  · obtain ⟨r, hr⟩ := List.exists_mem_of_ne_nil _ h
    obtain ⟨b, hb⟩ := List.exists_mem_of_ne_nil _ ((htne s hs).2 r hr)
    exact ⟨.ch r.1, b, Or.inr (Or.inl ⟨r, hr, Nat.le_refl _, ((hwf.rangesWF s hs).mem hr).2, hb⟩)⟩
  rcases Classical.not_and_iff_not_or_not.mp h with h | h
  · obtain ⟨b, hb⟩ := List.exists_mem_of_ne_nil _ h
    exact ⟨.ch 0, b, Or.inr (Or.inr hb)⟩
  · obtain ⟨b, hb⟩ := List.exists_mem_of_ne_nil _ h
    exact ⟨.eoi, b, hb⟩

theorem alive_of_den {rules : List CoreRule} (hp : ∀ r ∈ rules, regexPiecesOK r.re) {nfa : NFA}
    (hn : buildNfa rules = .ok nfa) {d : DFA Nat} (hd : nfaToDfa nfa = some d) {r : CoreRule} (hr : r ∈ rules)
    {z : List Sym} (hz : den r.re z) : reachSym d 0 z ≠ none := by
  intro hnone
  have := ruleSet_lang rules hp nfa hn d hd z
  rw [hnone] at this
  exact RuleSetLang.matchingAccs_ne_nil hr hz this

end BlockViable

open Lexgen.Subset in
/-- the DFA of a rule set is TRIM: it is alive after exactly the viable prefixes, and a reachable state has an outgoing transition exactly when the
prefix read so far can be extended by at least one more symbol towards a word of some rule -/
theorem block_viable (rules : List CoreRule) (hp : ∀ r ∈ rules, regexPiecesOK r.re) (hne : ∀ r ∈ rules, NoEmptyPieces r.re)
    (nfa : NFA) (hn : buildNfa rules = .ok nfa) (d : DFA Nat) (hd : nfaToDfa nfa = some d) (w : List Nat) :
    (reachN d 0 w = none ↔ (w ≠ [] ∧ ¬ Viable rules w)) ∧
    (∀ t, reachN d 0 w = some t → (DFA.hasNoTransitions (d.st t) = false ↔ Extendable rules w)) := by
  have hb := RuleSetLang.built_buildNfa rules hp nfa hn
  have htrim := BlockViable.trim_buildNfa rules hp hne nfa hn
  have hwf := hb.wf
  have htne : Subset.TargetsNonempty nfa := hb.tne
  have hno0 := (Thompson.shape_iff_edges hwf).mp hb.shape
  have hsc := (nfaToDfa_correct_partial nfa hwf htne d hd).1
  -- a path from 0 reading a non-empty word does not end in 0
  have hne0 : ∀ {z : List Sym} {u : Nat}, NPath nfa 0 z u → z ≠ [] → u ≠ 0 := by
    intro z u hpz hz hu
    exact hz (Thompson.path_into0 hno0 ((Thompson.npath_iff_path _ _ _ _).mp hpz) hu).2
  rw [← CompileLang.reachSym_ch]
  refine ⟨⟨fun hnone => ⟨?_, ?_⟩, ?_⟩, ?_⟩
  · rintro rfl
    cases hnone
  · rintro ⟨r, hrm, v, hv⟩
    apply BlockViable.alive_of_den hp hn hd hrm hv
    rw [reachSym_append, hnone]
    rfl
  · rintro ⟨hw, hnv⟩
    have h1 := hsc (w.map Sym.ch)
    cases hreach : reachSym d 0 (w.map Sym.ch) with
    | none => rfl
    | some t =>
      exfalso
      rw [hreach] at h1
      obtain ⟨T, _, hTne, hmem, _⟩ := h1
      obtain ⟨u, hu⟩ := List.exists_mem_of_ne_nil _ hTne
      have hpu := (hmem u).mp hu
      exact hnv (htrim _ u hpu (hne0 hpu fun h => hw (List.map_eq_nil_iff.mp h)))
  · intro t hreach
    have hnt := BlockShape.nfaToDfa_noTrans_iff hwf hd hreach
    constructor
    · intro hfalse
      -- some end of a path spelling `w` has a symbol step; the longer path lies on a word of a rule
      obtain ⟨s, hs⟩ := Classical.not_forall.mp fun h => Bool.false_ne_true (hfalse.symm.trans (hnt.mpr h))
      obtain ⟨hps, hsq⟩ := Classical.not_imp.mp hs
      obtain ⟨x, u, hstep⟩ := BlockViable.exists_step hwf htne (RuleSetLang.npath_lt hwf hps) hsq
      have hpu : NPath nfa 0 (w.map Sym.ch ++ [x]) u :=
        BlockViable.npath_trans hps (NPath.sym hstep (NPath.refl u))
      obtain ⟨r, hrm, v, hv⟩ := htrim _ u hpu (hne0 hpu (List.append_ne_nil_of_right_ne_nil _ (List.cons_ne_nil _ _)))
      rw [List.append_assoc] at hv
      exact ⟨r, hrm, x, v, hv⟩
    · rintro ⟨r, hrm, x, v, hv⟩
      have halive := BlockViable.alive_of_den hp hn hd hrm hv
      rw [reachSym_append, hreach] at halive
      cases hnt' : DFA.hasNoTransitions (d.st t) with
      | false => rfl
      | true =>
        exfalso
        apply halive
        simp only [Option.bind, reachSym, BlockViable.stepD_none_of_noTrans d t hnt' x]

end Lexgen
