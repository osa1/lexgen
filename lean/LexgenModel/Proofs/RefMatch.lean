import LexgenModel.Exec.RefMatch
import LexgenModel.Proofs.MaxMunch
import LexgenModel.Proofs.CandOrder
/-!
# The executable reference matcher and maximal-munch selector are correct

`Exec/RefMatch.lean` decides the language-level specification by Brzozowski derivatives; here each
computable function is proved equivalent to its (noncomputable) specification.
-/
namespace Lexgen

theorem itemHasB_iff (it : CharOrRange) (x : Nat) : itemHasB it x = true ↔ itemHas it x := by
  cases it with
  | chr c => exact beq_iff_eq
  | rng s e => simp only [itemHasB, itemHas, Bool.and_eq_true, decide_eq_true_eq]

theorem anyRange_iff (o : Option (List (Nat × Nat))) (c : Nat) :
    (match o with
      | none => false
      | some rs => rs.any fun p => decide (p.1 ≤ c) && decide (c ≤ p.2)) = true ↔
      ∃ rs, o = some rs ∧ ∃ p ∈ rs, p.1 ≤ c ∧ c ≤ p.2 := by
  cases o with
  | none => exact ⟨nofun, nofun⟩
  | some rs =>
    simp only [Option.some.injEq, exists_eq_left', List.any_eq_true, Bool.and_eq_true, decide_eq_true_eq]

-- the table lookup `builtinRanges n` stays folded while the two `match`es on it are compared
attribute [local irreducible] builtinRanges in
theorem classMem_iff (e : Regex) (c : Nat) : classMem e c = true ↔ classDen e c := by
  induction e with
  | builtin n => exact anyRange_iff (builtinRanges n) c
  | chr d => exact beq_iff_eq
  | set items =>
    refine List.any_eq_true.trans (exists_congr fun it => and_congr_right fun _ => ?_)
    cases it with
    | chr d => exact itemHasB_iff (.chr d) c
    | rng s e => exact itemHasB_iff (.rng s e) c
  | alt a b iha ihb => exact Bool.or_eq_true_iff.trans (or_congr iha ihb)
  | any => exact decide_eq_true_iff
  | diff a b iha ihb =>
    show (classMem a c && !classMem b c) = true ↔ classDen a c ∧ ¬ classDen b c
    rw [Bool.and_eq_true, Bool.not_eq_true', iha, ← ihb, Bool.not_eq_true]
  | _ => exact ⟨fun h => Bool.false_ne_true h, False.elim⟩

theorem den_emptyR (w : List Sym) : ¬ den emptyR w := fun h => h.1 rfl

/-- `emptyR` is recognised syntactically by `derivRules`, `anyPrefixB` and `aliveR` -/
theorem ne_emptyR_of_den {r : Regex} {w : List Sym} (h : den r w) : (!(r == emptyR)) = true := by
  have : r ≠ emptyR := fun e => den_emptyR w (e ▸ h)
  simpa using this

theorem star_empty {L : List Sym → Prop} (hL : ∀ w, ¬ L w) (w : List Sym) : Star L w ↔ w = [] := by
  constructor
  · intro h
    cases h with
    | nil => rfl
    | cons h1 _ => exact absurd h1 (hL _)
  · rintro rfl
    exact Star.nil

theorem den_epsR (w : List Sym) : den epsR w ↔ w = [] := star_empty den_emptyR w

theorem den_ofBoolR (b : Bool) (w : List Sym) : den (ofBoolR b) w ↔ b = true ∧ w = [] := by
  cases b with
  | true => exact ⟨fun h => ⟨rfl, (den_epsR w).mp h⟩, fun h => (den_epsR w).mpr h.2⟩
  | false => exact ⟨fun h => absurd h (den_emptyR w), fun h => Bool.noConfusion h.1⟩

theorem den_cat (a b : Regex) (w : List Sym) :
    den (.cat a b) w ↔ ∃ u v, w = u ++ v ∧ den a u ∧ den b v := Iff.rfl

theorem den_alt (a b : Regex) (w : List Sym) : den (.alt a b) w ↔ den a w ∨ den b w := Iff.rfl

theorem mkCat_cases (a b : Regex) :
    (a = emptyR ∨ b = emptyR) ∧ mkCat a b = emptyR ∨ a = epsR ∧ mkCat a b = b ∨ b = epsR ∧ mkCat a b = a ∨
      a ≠ emptyR ∧ b ≠ emptyR ∧ mkCat a b = .cat a b := by
  unfold mkCat
  by_cases ha : a = emptyR
  · exact Or.inl ⟨Or.inl ha, if_pos ha⟩
  rw [if_neg ha]
  by_cases hb : b = emptyR
  · exact Or.inl ⟨Or.inr hb, if_pos hb⟩
  rw [if_neg hb]
  by_cases ha' : a = epsR
  · exact Or.inr (Or.inl ⟨ha', if_pos ha'⟩)
  rw [if_neg ha']
  by_cases hb' : b = epsR
  · exact Or.inr (Or.inr (Or.inl ⟨hb', if_pos hb'⟩))
  · exact Or.inr (Or.inr (Or.inr ⟨ha, hb, if_neg hb'⟩))

theorem den_mkCat (a b : Regex) (w : List Sym) :
    den (mkCat a b) w ↔ ∃ u v, w = u ++ v ∧ den a u ∧ den b v := by
  rcases mkCat_cases a b with ⟨h, hm⟩ | ⟨rfl, hm⟩ | ⟨rfl, hm⟩ | ⟨_, _, hm⟩
  · rw [hm]
    refine ⟨fun h' => absurd h' (den_emptyR w), ?_⟩
    rintro ⟨u, v, _, hu, hv⟩
    rcases h with rfl | rfl
    · exact absurd hu (den_emptyR u)
    · exact absurd hv (den_emptyR v)
  · rw [hm]
    constructor
    · intro h; exact ⟨[], w, rfl, (den_epsR []).mpr rfl, h⟩
    · rintro ⟨u, v, rfl, hu, hv⟩
      rw [(den_epsR u).mp hu]; exact hv
  · rw [hm]
    constructor
    · intro h; exact ⟨w, [], (List.append_nil w).symm, h, (den_epsR []).mpr rfl⟩
    · rintro ⟨u, v, rfl, hu, hv⟩
      rw [(den_epsR v).mp hv, List.append_nil]; exact hu
  · rw [hm]; exact Iff.rfl

theorem exists_mem_singleton {α : Type} (p : α → Prop) (a : α) : p a ↔ ∃ b ∈ [a], p b :=
  ⟨fun h => ⟨a, List.mem_singleton_self a, h⟩, fun ⟨_, hm, h⟩ => List.eq_of_mem_singleton hm ▸ h⟩

theorem den_altOfList (l : List Regex) (w : List Sym) : den (altOfList l) w ↔ ∃ r ∈ l, den r w := by
  induction l with
  | nil => exact ⟨fun h => absurd h (den_emptyR w), fun ⟨_, h, _⟩ => nomatch h⟩
  | cons r rs ih =>
    cases rs with
    | nil => exact exists_mem_singleton (den · w) r
    | cons r' rs' =>
      show den r w ∨ den (altOfList (r' :: rs')) w ↔ _
      rw [ih]
      simp only [List.mem_cons, exists_eq_or_imp]

theorem den_altsR (r : Regex) (w : List Sym) : den r w ↔ ∃ r' ∈ altsR r, den r' w := by
  induction r with
  | alt a b iha ihb =>
    rw [den_alt, iha, ihb]
    show _ ↔ ∃ r' ∈ altsR a ++ altsR b, den r' w
    simp only [List.mem_append, or_and_right, exists_or]
  | _ => exact exists_mem_singleton (den · w) _

theorem mem_dedupR (l : List Regex) (r : Regex) : r ∈ dedupR l ↔ r ∈ l := by
  induction l with
  | nil => exact Iff.rfl
  | cons a as ih =>
    show r ∈ (if as.contains a then dedupR as else a :: dedupR as) ↔ _
    split
    · next h =>
      have : a ∈ as := by simpa using h
      rw [ih, List.mem_cons]
      exact ⟨Or.inr, fun h' => h'.elim (fun e => e ▸ this) id⟩
    · rw [List.mem_cons, List.mem_cons, ih]

theorem den_mkAlt (a b : Regex) (w : List Sym) : den (mkAlt a b) w ↔ den a w ∨ den b w := by
  unfold mkAlt
  rw [den_altOfList, den_altsR a, den_altsR b, ← exists_or]
  refine exists_congr fun r => ?_
  rw [mem_dedupR, List.mem_filter, List.mem_append, ← or_and_right, and_assoc]
  exact and_congr_right fun _ => and_iff_right_of_imp ne_emptyR_of_den

theorem cat_nil_iff {A B : List Sym → Prop} : (∃ u v, [] = u ++ v ∧ A u ∧ B v) ↔ A [] ∧ B [] := by
  constructor
  · rintro ⟨u, v, h, hu, hv⟩
    obtain ⟨rfl, rfl⟩ := List.nil_eq_append_iff.mp h
    exact ⟨hu, hv⟩
  · exact fun ⟨hu, hv⟩ => ⟨[], [], rfl, hu, hv⟩

theorem nullableR_iff (r : Regex) : nullableR r = true ↔ den r [] := by
  induction r with
  | var _ => exact iff_of_false Bool.false_ne_true id
  | str cs => exact iff_of_false Bool.false_ne_true fun h => h.1 (List.map_eq_nil_iff.mp h.2.symm)
  | star r _ => exact iff_of_true rfl Star.nil
  | plus r ih => exact ih.trans ((and_iff_left Star.nil).symm.trans cat_nil_iff.symm)
  | opt r _ => exact iff_of_true rfl (Or.inl rfl)
  | cat a b iha ihb => exact Bool.and_eq_true_iff.trans ((and_congr iha ihb).trans cat_nil_iff.symm)
  | alt a b iha ihb => exact Bool.or_eq_true_iff.trans (or_congr iha ihb)
  -- the remaining regexes denote one-symbol words only
  | chr _ | eoi => exact iff_of_false Bool.false_ne_true (List.cons_ne_nil _ _ ·.symm)
  | any => exact iff_of_false Bool.false_ne_true fun ⟨_, h⟩ => List.cons_ne_nil _ _ h.symm
  | builtin _ | set _ | diff _ _ => exact iff_of_false Bool.false_ne_true fun ⟨_, h, _⟩ => List.cons_ne_nil _ _ h.symm

theorem star_cons_iff {L : List Sym → Prop} (x : Sym) (w : List Sym) :
    Star L (x :: w) ↔ ∃ u v, w = u ++ v ∧ L (x :: u) ∧ Star L v := by
  constructor
  · intro h
    generalize hw : x :: w = w' at h
    induction h with
    | nil => cases hw
    | @cons u v hu hv ih =>
      rcases List.cons_eq_append_iff.mp hw with ⟨rfl, rfl⟩ | ⟨u', rfl, rfl⟩
      · exact ih rfl
      · exact ⟨u', v, rfl, hu, hv⟩
  · rintro ⟨u, v, rfl, hu, hv⟩
    exact Star.cons hu hv

theorem cat_cons_iff {A B : List Sym → Prop} (x : Sym) (w : List Sym) :
    (∃ u v, x :: w = u ++ v ∧ A u ∧ B v) ↔
      (∃ u v, w = u ++ v ∧ A (x :: u) ∧ B v) ∨ (A [] ∧ B (x :: w)) := by
  constructor
  · rintro ⟨u, v, h, hu, hv⟩
    rcases List.cons_eq_append_iff.mp h with ⟨rfl, rfl⟩ | ⟨u', rfl, rfl⟩
    · exact Or.inr ⟨hu, hv⟩
    · exact Or.inl ⟨u', v, rfl, hu, hv⟩
  · rintro (⟨u, v, rfl, hu, hv⟩ | ⟨hu, hv⟩)
    · exact ⟨x :: u, v, rfl, hu, hv⟩
    · exact ⟨[], x :: w, rfl, hu, hv⟩

theorem den_ofBoolR_oneSym (r : Regex) {P : Nat → Prop} (hch : ∀ c, oneSym r (.ch c) = true ↔ P c)
    (heoi : oneSym r .eoi = false) (x : Sym) (w : List Sym) :
    den (ofBoolR (oneSym r x)) w ↔ ∃ c, x :: w = [.ch c] ∧ P c := by
  rw [den_ofBoolR]
  cases x with
  | ch c =>
    rw [hch]
    exact ⟨fun ⟨hc, hw⟩ => ⟨c, by rw [hw], hc⟩, fun ⟨_, h, hc⟩ => by cases h; exact ⟨hc, rfl⟩⟩
  | eoi =>
    rw [heoi]
    exact ⟨fun h => Bool.noConfusion h.1, fun ⟨_, h, _⟩ => nomatch h⟩

theorem den_derivR (r : Regex) (x : Sym) (w : List Sym) : den (derivR r x) w ↔ den r (x :: w) := by
  induction r generalizing w with
  | builtin n => exact den_ofBoolR_oneSym (.builtin n) (classMem_iff (.builtin n)) rfl x w
  | var n => exact ⟨fun h => absurd h (den_emptyR w), False.elim⟩
  | chr c =>
    refine (den_ofBoolR_oneSym (.chr c) (P := (· = c)) (fun _ => beq_iff_eq) rfl x w).trans ?_
    exact ⟨fun ⟨_, h, hc⟩ => hc ▸ h, fun h => ⟨c, h, rfl⟩⟩
  | str cs =>
    cases cs with
    | nil => exact ⟨fun h => absurd h (den_emptyR w), fun h => absurd rfl h.1⟩
    | cons c cs =>
      show den (if x = .ch c then (if cs = [] then epsR else .str cs) else emptyR) w ↔
        c :: cs ≠ [] ∧ x :: w = .ch c :: cs.map Sym.ch
      rw [List.cons.injEq, and_iff_right (List.cons_ne_nil c cs)]
      by_cases hx : x = .ch c
      · rw [if_pos hx, and_iff_right hx]
        by_cases hcs : cs = []
        · rw [if_pos hcs, den_epsR, hcs]; rfl
        · rw [if_neg hcs]; exact and_iff_right hcs
      · rw [if_neg hx]
        exact ⟨fun h => absurd h (den_emptyR w), fun h => absurd h.1 hx⟩
  | set items =>
    exact den_ofBoolR_oneSym (.set items) (fun c => List.any_eq_true.trans
      (exists_congr fun it => and_congr_right fun _ => itemHasB_iff it c)) rfl x w
  | star r ih =>
    show den (mkCat (derivR r x) (.star r)) w ↔ Star (den r) (x :: w)
    rw [den_mkCat, star_cons_iff]
    simp only [ih]
    rfl
  | plus r ih =>
    show den (mkCat (derivR r x) (.star r)) w ↔ ∃ u v, x :: w = u ++ v ∧ den r u ∧ Star (den r) v
    rw [den_mkCat, cat_cons_iff, star_cons_iff]
    simp only [ih]
    exact (or_iff_left_of_imp And.right).symm
  | opt r ih => exact (ih w).trans ⟨Or.inr, fun h => h.resolve_left (List.cons_ne_nil x w)⟩
  | cat a b iha ihb =>
    show den (if nullableR a then mkAlt (mkCat (derivR a x) b) (derivR b x) else mkCat (derivR a x) b) w ↔ _
    rw [den_cat, cat_cons_iff]
    split
    · next hn => simp only [den_mkAlt, den_mkCat, iha, ihb, and_iff_right ((nullableR_iff a).mp hn)]
    · next hn =>
      simp only [den_mkCat, iha]
      exact (or_iff_left fun h => hn ((nullableR_iff a).mpr h.1)).symm
  | alt a b iha ihb => exact (den_mkAlt _ _ w).trans (or_congr (iha w) (ihb w))
  | any =>
    refine (den_ofBoolR_oneSym .any (P := fun _ => True) (fun _ => iff_of_true rfl trivial) rfl x w).trans ?_
    exact exists_congr fun _ => and_iff_left trivial
  | eoi =>
    show den (ofBoolR (oneSym .eoi x)) w ↔ x :: w = [.eoi]
    rw [den_ofBoolR]
    cases x with
    | ch c => exact ⟨fun h => Bool.noConfusion h.1, fun h => nomatch h⟩
    | eoi => exact ⟨fun h => by rw [h.2], fun h => ⟨rfl, (List.cons.inj h).2⟩⟩
  | diff a b _ _ => exact den_ofBoolR_oneSym (.diff a b) (classMem_iff (.diff a b)) rfl x w

theorem den_derivsR (r : Regex) (u w : List Sym) : den (derivsR r u) w ↔ den r (u ++ w) := by
  induction u generalizing r with
  | nil => rfl
  | cons x u ih => exact (ih (derivR r x)).trans (den_derivR r x (u ++ w))

theorem matchesR_iff (r : Regex) (w : List Sym) : matchesR r w = true ↔ den r w := by
  unfold matchesR
  rw [nullableR_iff, den_derivsR, List.append_nil]

theorem matchesR_cons (r : Regex) (x : Sym) (w : List Sym) : matchesR r (x :: w) = matchesR (derivR r x) w := rfl

theorem matchesR_nil (r : Regex) : matchesR r [] = nullableR r := rfl

theorem matchesR_emptyR (w : List Sym) : matchesR emptyR w = false :=
  Bool.eq_false_iff.mpr fun h => den_emptyR w ((matchesR_iff _ _).mp h)

open Classical in
theorem matchingAccsB_eq (rules : List CoreRule) (w : List Sym) : matchingAccsB rules w = matchingAccs rules w := by
  unfold matchingAccsB matchingAccs
  congr 1
  apply List.filter_congr
  intro r _
  rw [Bool.eq_iff_iff, matchesR_iff]
  simp

theorem anyPrefixB_iff (r : Regex) (w : List Sym) : anyPrefixB r w = true ↔ ∃ j, den r (w.take j) := by
  induction w generalizing r with
  | nil => exact (nullableR_iff r).trans ⟨fun h => ⟨0, h⟩, fun ⟨j, h⟩ => List.take_nil (i := j) ▸ h⟩
  | cons x w ih =>
    show (nullableR r || (!(r == emptyR) && anyPrefixB (derivR r x) w)) = true ↔ _
    simp only [Bool.or_eq_true, Bool.and_eq_true, nullableR_iff, ih]
    constructor
    · rintro (h | ⟨_, j, h⟩)
      · exact ⟨0, h⟩
      · exact ⟨j + 1, (den_derivR r x _).mp h⟩
    · rintro ⟨j, h⟩
      cases j with
      | zero => exact Or.inl h
      | succ j => exact Or.inr ⟨ne_emptyR_of_den h, j, (den_derivR r x _).mpr h⟩

theorem ctxLangB_iff (c : Regex) (rest : List Nat) : ctxLangB c rest = true ↔ CtxLang c rest :=
  anyPrefixB_iff c (ext rest)

open Classical in
theorem firstLangB_eq (ctxAt : Nat → Regex) (rest : List Nat) (accs : List Acc) :
    firstLangB ctxAt rest accs = firstLang ctxAt rest accs := by
  induction accs with
  | nil => rfl
  | cons a more ih =>
    obtain ⟨value, ctx⟩ := a
    cases ctx with
    | none => rfl
    | some i => exact ite_congr (propext (ctxLangB_iff (ctxAt i) rest)) (fun _ => rfl) fun _ => ih

theorem langCandB_iff (rules : List CoreRule) (ctxAt : Nat → Regex) (iter : List Nat) (n a : Nat) (viaEoi : Bool) :
    langCandB rules ctxAt iter n a viaEoi = true ↔ LangCand rules ctxAt iter n a viaEoi := by
  unfold langCandB LangCand
  simp only [firstLangB_eq, matchingAccsB_eq]
  cases viaEoi <;> simp

theorem nullAccs_eq (rules : List CoreRule) : nullAccs rules = matchingAccsB rules [] := rfl

/-- a rule dropped by `derivRules` would not have matched anyway -/
theorem matchingAccsB_derivRules (rules : List CoreRule) (x : Sym) (w : List Sym) :
    matchingAccsB (derivRules rules x) w = matchingAccsB rules (x :: w) := by
  have hdrop : ∀ r : CoreRule, (matchesR r.re w && !(r.re == emptyR)) = matchesR r.re w := fun r =>
    Bool.and_eq_left_iff_imp.mpr fun h => ne_emptyR_of_den ((matchesR_iff r.re w).mp h)
  unfold matchingAccsB derivRules
  rw [List.filter_filter, List.filter_congr fun r _ => hdrop r, List.filter_map, List.map_map]
  rfl

theorem matchingAccs_derivRules (rules : List CoreRule) (x : Sym) (w : List Sym) :
    matchingAccs (derivRules rules x) w = matchingAccs rules (x :: w) := by
  rw [← matchingAccsB_eq, ← matchingAccsB_eq, matchingAccsB_derivRules]

theorem firstLangB_nullAccs (ctxAt : Nat → Regex) (rest : List Nat) (rules : List CoreRule) :
    firstLangB ctxAt rest (nullAccs rules) = firstLang ctxAt rest (matchingAccs rules []) := by
  rw [firstLangB_eq, nullAccs_eq, matchingAccsB_eq]

theorem derivRules_nil (x : Sym) : derivRules [] x = [] := rfl

theorem scanRef_nilRules (ctxAt : Nat → Regex) (k : Nat) (rest : List Nat) (best : Option (Nat × Nat × Bool)) :
    scanRef ctxAt [] k rest best = best := by
  cases rest with
  | nil => rfl
  | cons c rest => rfl

theorem scanRef_nil (ctxAt : Nat → Regex) (rules : List CoreRule) (k : Nat) (best : Option (Nat × Nat × Bool)) :
    scanRef ctxAt rules k [] best =
      match firstLangB ctxAt [] (nullAccs (derivRules rules .eoi)) with
      | some a => some (k, a, true)
      | none =>
        match firstLangB ctxAt [] (nullAccs rules) with
        | some a => some (k, a, false)
        | none => best := rfl

theorem scanRef_cons (ctxAt : Nat → Regex) (rules : List CoreRule) (k c : Nat) (rest : List Nat)
    (best : Option (Nat × Nat × Bool)) :
    scanRef ctxAt rules k (c :: rest) best =
      scanRef ctxAt (derivRules rules (.ch c)) (k + 1) rest
        (match firstLangB ctxAt (c :: rest) (nullAccs rules) with
         | some a => some (k, a, false)
         | none => best) := by
  show (match derivRules rules (.ch c) with
    | [] => _
    | rules' => scanRef ctxAt rules' (k + 1) rest _) = _
  cases derivRules rules (.ch c) with
  | nil => exact (scanRef_nilRules ctxAt (k + 1) rest _).symm
  | cons r rs => rfl

theorem langCand_derivRules (rules : List CoreRule) (ctxAt : Nat → Regex) (c : Nat) (rest : List Nat) (n a : Nat)
    (e : Bool) :
    LangCand (derivRules rules (.ch c)) ctxAt rest n a e ↔ LangCand rules ctxAt (c :: rest) (n + 1) a e := by
  simp only [LangCand, matchingAccs_derivRules, List.length_cons, Nat.add_le_add_iff_right,
    Nat.add_right_cancel_iff, List.map_cons, List.cons_append, List.drop_succ_cons, List.take_succ_cons]

theorem selects_derivRules {rules : List CoreRule} {ctxAt : Nat → Regex} {c : Nat} {rest : List Nat} {n a : Nat}
    {e : Bool} (h : Selects (derivRules rules (.ch c)) ctxAt rest n a e) :
    Selects rules ctxAt (c :: rest) (n + 1) a e := by
  refine ⟨(langCand_derivRules ..).mp h.1, fun n' a' e' h' => ?_⟩
  cases n' with
  | zero => exact candLe_of_lt e' e (Nat.succ_pos n)
  | succ m => exact candLe_succ (h.2 m a' e' ((langCand_derivRules ..).mpr h'))

theorem langCand_nil_iff {rules : List CoreRule} {ctxAt : Nat → Regex} {n a : Nat} {e : Bool} :
    LangCand rules ctxAt [] n a e ↔
      n = 0 ∧ firstLang ctxAt [] (matchingAccs rules (if e then [.eoi] else [])) = some a := by
  cases e with
  | true => exact langCand_true_iff
  | false =>
    simp only [langCand_false_iff, List.length_nil, Nat.le_zero_eq, List.drop_nil, List.take_nil, List.map_nil,
      Bool.false_eq_true, if_false]

theorem langCand_zero_false {rules : List CoreRule} {ctxAt : Nat → Regex} {iter : List Nat} {a : Nat} :
    LangCand rules ctxAt iter 0 a false ↔ firstLang ctxAt iter (matchingAccs rules []) = some a :=
  langCand_false_iff.trans (and_iff_right (Nat.zero_le _))

/-- One pass finds the maximal match: `scanRef` returns the selected match of the remaining input, counted
from the `k` characters already read, or `best` when the remaining input has no match at all. -/
theorem scanRef_spec (ctxAt : Nat → Regex) (iter : List Nat) :
    ∀ (rules : List CoreRule) (k : Nat) (best : Option (Nat × Nat × Bool)),
      (∃ n a e, Selects rules ctxAt iter n a e ∧ scanRef ctxAt rules k iter best = some (k + n, a, e)) ∨
      ((∀ n a e, ¬ LangCand rules ctxAt iter n a e) ∧ scanRef ctxAt rules k iter best = best) := by
  induction iter with
  | nil =>
    intro rules k best
    rw [scanRef_nil, firstLangB_nullAccs, firstLangB_nullAccs, matchingAccs_derivRules]
    cases hT : firstLang ctxAt [] (matchingAccs rules [.eoi]) with
    | some a =>
      refine Or.inl ⟨0, a, true, ⟨langCand_nil_iff.mpr ⟨rfl, hT⟩, fun n' a' e' h' => ?_⟩, rfl⟩
      exact Or.inr ⟨(langCand_nil_iff.mp h').1, fun _ => rfl⟩
    | none =>
      have noT : ∀ n a, ¬ LangCand rules ctxAt [] n a true := fun n a h =>
        nomatch hT.symm.trans (langCand_nil_iff.mp h).2
      cases hF : firstLang ctxAt [] (matchingAccs rules []) with
      | some a =>
        refine Or.inl ⟨0, a, false, ⟨langCand_nil_iff.mpr ⟨rfl, hF⟩, fun n' a' e' h' => ?_⟩, rfl⟩
        refine Or.inr ⟨(langCand_nil_iff.mp h').1, fun he => ?_⟩
        subst he
        exact absurd h' (noT n' a')
      | none =>
        refine Or.inr ⟨fun n a e h => ?_, rfl⟩
        cases e with
        | true => exact noT n a h
        | false => exact nomatch hF.symm.trans (langCand_nil_iff.mp h).2
  | cons c rest ih =>
    intro rules k best
    rw [scanRef_cons, firstLangB_nullAccs]
    rcases ih (derivRules rules (.ch c)) (k + 1) _ with ⟨n, a, e, hS, heq⟩ | ⟨hno, heq⟩
    · exact Or.inl ⟨n + 1, a, e, selects_derivRules hS, by rw [heq, Nat.add_assoc, Nat.add_comm 1 n]⟩
    · -- no match goes beyond `c`: what remains is the empty match, not through `$`
      have h0 : ∀ n a e, LangCand rules ctxAt (c :: rest) n a e →
          n = 0 ∧ e = false ∧ firstLang ctxAt (c :: rest) (matchingAccs rules []) = some a := by
        intro n a e h
        cases n with
        | succ m => exact absurd ((langCand_derivRules ..).mpr h) (hno m a e)
        | zero =>
          cases e with
          | true => exact absurd (langCand_true_length h) (Nat.succ_ne_zero _).symm
          | false => exact ⟨rfl, rfl, langCand_zero_false.mp h⟩
      rw [heq]
      cases hF : firstLang ctxAt (c :: rest) (matchingAccs rules []) with
      | some a =>
        refine Or.inl ⟨0, a, false, ⟨langCand_zero_false.mpr hF, fun n' a' e' h' => ?_⟩, rfl⟩
        obtain ⟨rfl, rfl, _⟩ := h0 n' a' e' h'
        exact Or.inr ⟨rfl, id⟩
      | none => exact Or.inr ⟨fun n a e h => (nomatch hF.symm.trans (h0 n a e h).2.2), rfl⟩

theorem selectRef_spec (rules : List CoreRule) (ctxAt : Nat → Regex) (iter : List Nat) :
    (∃ n a e, Selects rules ctxAt iter n a e ∧ selectRef rules ctxAt iter = some (n, a, e)) ∨
    ((∀ n a e, ¬ LangCand rules ctxAt iter n a e) ∧ selectRef rules ctxAt iter = none) := by
  unfold selectRef
  simpa only [Nat.zero_add] using scanRef_spec ctxAt iter rules 0 none

theorem selectRef_some (rules : List CoreRule) (ctxAt : Nat → Regex) (iter : List Nat) (n a : Nat) (e : Bool) :
    selectRef rules ctxAt iter = some (n, a, e) ↔ Selects rules ctxAt iter n a e := by
  rcases selectRef_spec rules ctxAt iter with ⟨n', a', e', hS, h'⟩ | ⟨hno, h'⟩
  · rw [h']
    constructor
    · intro h
      cases h
      exact hS
    · intro hs
      obtain ⟨rfl, rfl, rfl⟩ := selects_unique rules ctxAt iter n' a' n a e' e hS hs
      rfl
  · rw [h']
    exact ⟨nofun, fun hs => absurd hs.1 (hno n a e)⟩

theorem selectRef_none (rules : List CoreRule) (ctxAt : Nat → Regex) (iter : List Nat) :
    selectRef rules ctxAt iter = none ↔ ∀ n a e, ¬ LangCand rules ctxAt iter n a e := by
  rcases selectRef_spec rules ctxAt iter with ⟨n, a, e, hS, h'⟩ | ⟨hno, h'⟩
  · rw [h']
    exact ⟨nofun, fun hno => absurd hS.1 (hno n a e)⟩
  · exact iff_of_true h' hno

/-! ## Sanity checks on a tiny rule set (evaluated by the kernel) -/

namespace RefMatchTest
/-- `"if"`, `[a-z][a-z0-9]*`, `[0-9]+ > (' ' | $)`, `' '+`, `'x' $`, on code points -/
def rules : List CoreRule := [
  { re := .str [105, 102], ctx := none, value := 0 },
  { re := .cat (.set [.rng 97 122]) (.star (.set [.rng 97 122, .rng 48 57])), ctx := none, value := 1 },
  { re := .plus (.set [.rng 48 57]), ctx := some 0, value := 2 },
  { re := .plus (.chr 32), ctx := none, value := 3 },
  { re := .cat (.chr 120) .eoi, ctx := none, value := 4 }]
def ctxAt : Nat → Regex := fun _ => .alt (.chr 32) .eoi

example : selectRef rules ctxAt [105, 102, 32, 120] = some (2, 0, false) := by decide +kernel
example : selectRef rules ctxAt [105, 102, 120] = some (3, 1, false) := by decide +kernel
example : selectRef rules ctxAt [49, 50, 32] = some (2, 2, false) := by decide +kernel
example : selectRef rules ctxAt [49, 50] = some (2, 2, false) := by decide +kernel
example : selectRef rules ctxAt [49, 50, 97] = none := by decide +kernel
example : selectRef rules ctxAt [120] = some (1, 4, true) := by decide +kernel
example : selectRef rules ctxAt [120, 32] = some (1, 1, false) := by decide +kernel
example : selectRef rules ctxAt [] = none := by decide +kernel
example : matchesR (.star (.alt (.chr 97) (.str [97, 97]))) [.ch 97, .ch 97, .ch 97] = true := by decide +kernel
example : matchesR (.cat (.diff .any (.chr 97)) .eoi) [.ch 98, .eoi] = true := by decide +kernel
example : matchesR (.cat (.diff .any (.chr 97)) .eoi) [.ch 97, .eoi] = false := by decide +kernel
example : ctxLangB (.alt (.chr 32) .eoi) [] = true := by decide +kernel
example : ctxLangB (.alt (.chr 32) .eoi) [97] = false := by decide +kernel
example : langCandB rules ctxAt [105, 102, 120] 2 0 false = true := by decide +kernel
example : Selects rules ctxAt [105, 102, 120] 3 1 false := (selectRef_some ..).mp (by decide +kernel)
end RefMatchTest
end Lexgen
