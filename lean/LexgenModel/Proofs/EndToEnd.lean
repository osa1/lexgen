import LexgenModel.Proofs.MachineOKCompile
import LexgenModel.Proofs.CtxLang
import LexgenModel.Proofs.LangCand
import LexgenModel.Proofs.MaxMunch
import LexgenModel.Proofs.NextProtocol
import LexgenModel.Spec.Viable
/-!
# End to end through the model of `lexer()`

For every WELL-FORMED definition the model compiles (`DefOK`: no rule matches the empty string, bracket
ranges non-inverted, `$` only at the tail of rules and right contexts) the final machine satisfies `MachineOK`
(`compileLexer_machineOK`), so the run-time theorems apply to it: `compile_cand_iff`, `compile_maximal_munch`.
-/
namespace Lexgen
variable {σ τ ε : Type}

theorem forall_allRuleSets_of_single {items : LexerDef} {x : String × List RuleOrBinding × Bindings × Nat}
    (hs : allRuleSets items = [x]) {P : String → List RuleOrBinding → Bindings → Nat → Prop}
    (h : P x.1 x.2.1 x.2.2.1 x.2.2.2) : ∀ name rs b k, (name, rs, b, k) ∈ allRuleSets items → P name rs b k := by
  intro name rs b k hmem
  rw [hs, List.mem_singleton] at hmem
  subst hmem
  exact h

theorem defOK_of_single {items : LexerDef} {x : String × List RuleOrBinding × Bindings × Nat}
    {rules : List CoreRule} {cres : List Regex} (hs : allRuleSets items = [x])
    (hc : coreRules x.2.1 x.2.2.1 x.2.2.2 = some rules) (hx : coreCtxs x.2.1 x.2.2.1 = some cres)
    (hr : ∀ r ∈ rules, RuleOK r) (hcx : ∀ c ∈ cres, CtxReOK c) : DefOK items :=
  ⟨forall_allRuleSets_of_single hs fun _ hc' => Option.some.inj (hc.symm.trans hc') ▸ hr,
    forall_allRuleSets_of_single hs fun _ hx' => Option.some.inj (hx.symm.trans hx') ▸ hcx⟩

theorem defNE_of_single {items : LexerDef} {x : String × List RuleOrBinding × Bindings × Nat}
    {rules : List CoreRule} (hs : allRuleSets items = [x])
    (hc : coreRules x.2.1 x.2.2.1 x.2.2.2 = some rules) (hr : ∀ r ∈ rules, NoEmptyPieces r.re) : DefNE items :=
  forall_allRuleSets_of_single hs fun _ hc' => Option.some.inj (hc.symm.trans hc') ▸ hr

theorem coreRules_ctx_range (rs : List RuleOrBinding) (b : Bindings) (k : Nat) (rules : List CoreRule)
    (h : coreRules rs b k = some rules) : ∀ r ∈ rules, ∀ i, r.ctx = some i → ∃ j, i = k + j ∧ j < ctxCount rs := by
  fun_induction coreRules rs b k generalizing rules with
  | case1 => cases h; nofun
  | case2 _ _ _ _ _ ih => exact ih rules h
  | case3 => cases h
  | case4 b k sr rest re _ ctx next hx ih =>
    obtain ⟨l, hl, rfl⟩ := Option.map_eq_some_iff.1 h
    -- the rule takes number `k` if it has a right context; the later rules count on from there
    obtain ⟨rfl, rfl⟩ : ctx = sr.ctx.map (fun _ => k) ∧ next = k + if sr.ctx.isSome = true then 1 else 0 := by
      revert hx
      cases sr.ctx <;> exact fun hx => (Prod.mk.inj hx).imp Eq.symm Eq.symm
    rw [CompileLang.ctxCount_rule]
    intro r hr i hi
    rcases List.mem_cons.mp hr with rfl | hr'
    · obtain ⟨c, hsr, rfl⟩ := Option.map_eq_some_iff.1 hi
      rw [hsr]
      exact ⟨0, rfl, Nat.lt_add_right _ Nat.one_pos⟩
    · obtain ⟨j, rfl, hj⟩ := ih l hl r hr' i hi
      exact ⟨_, Nat.add_assoc .., Nat.add_lt_add_left hj _⟩

theorem compile_realises (items : LexerDef) (c : Compiled) (h : compileLexer items = .ok c)
    (name : String) (rs : List RuleOrBinding) (b : Bindings) (k : Nat) (hmem : (name, rs, b, k) ∈ allRuleSets items) :
    ∃ e rules, IsEntryOf items c name e ∧ e < c.dfa.length ∧ coreRules rs b k = some rules ∧
      ((∀ r ∈ rules, regexPiecesOK r.re) → RealisesRules c.dfa e rules) := by
  obtain ⟨hT, hs, _⟩ := CompileLang.compile_blocks h
  obtain ⟨e0, dR, hB, he⟩ := compile_block h hmem
  obtain ⟨hlt, rules, hcore, hreal⟩ := hB.lang hT hs
  refine ⟨newIdx c.full e0, rules, ?_, hlt, hcore, hreal⟩
  unfold IsEntryOf
  split at he
  · rw [if_pos ‹_›, (Simplify.simplify_ok _ _ _ _ hs).2]
    exact List.mem_map.mpr ⟨(name, e0), he, rfl⟩
  · rw [if_neg ‹_›, he]
    exact Simplify.newIdx_zero _

theorem cand_iff_of_realises (items : LexerDef) (c : Compiled) (h : compileLexer items = .ok c) (hok : DefOK items)
    (ctxAt : Nat → Regex) (hnum : CtxNumbering items ctxAt)
    (name : String) (rs : List RuleOrBinding) (b : Bindings) (k : Nat) (hmem : (name, rs, b, k) ∈ allRuleSets items)
    (actions : Nat → Action σ τ ε) (width : Nat → Nat) (input : Option (List Nat))
    (e : Nat) (rules : List CoreRule) (hcore : coreRules rs b k = some rules)
    (hreal : (∀ r ∈ rules, regexPiecesOK r.re) → RealisesRules c.dfa e rules) :
    ∀ iter n a viaEoi,
      Cand (c.config actions width input) e iter n a viaEoi ↔ LangCand rules ctxAt iter n a viaEoi := by
  have hrules := hok.rules name rs b k hmem rules hcore
  have hR := hreal (fun r hr => (hrules r hr).pieces)
  obtain ⟨cres, hcres, hlen, hctxs⟩ := compileLexer_ctxs items c h name rs b k hmem
  have hcok := hok.ctxs name rs b k hmem cres hcres
  have hm := compileLexer_machineOK items c h hok actions width input
  intro iter n a viaEoi
  apply cand_iff_langCand (c.config actions width input) e rules ctxAt hR ?_ hm.eoiAccept
  intro r hr i hi rest
  obtain ⟨j, rfl, hj⟩ := coreRules_ctx_range rs b k rules hcore r hr i hi
  have hj : j < cres.length := CtxLangP.coreCtxs_length rs b cres hcres ▸ hj
  have hc := hcok cres[j] (List.getElem_mem hj)
  rw [hnum name rs b k hmem cres hcres j hj]
  exact hctxs j hj hc.pieces hc.tail rest

/-- From the entry of every rule set of a well-formed definition, the matches of the compiled machine are
exactly the matches of the definition read as languages: the first `k` characters (plus end-of-input
when `viaEoi`) are denoted by the rule with action `a`, which is the first rule in source order denoting
them whose right context — as a language, on the rest of the input — holds. -/
theorem compile_cand_iff (items : LexerDef) (c : Compiled) (h : compileLexer items = .ok c) (hok : DefOK items)
    (ctxAt : Nat → Regex) (hnum : CtxNumbering items ctxAt)
    (name : String) (rs : List RuleOrBinding) (b : Bindings) (k : Nat) (hmem : (name, rs, b, k) ∈ allRuleSets items)
    (actions : Nat → Action σ τ ε) (width : Nat → Nat) (input : Option (List Nat)) :
    ∃ e rules, IsEntryOf items c name e ∧ e < c.dfa.length ∧ coreRules rs b k = some rules ∧
      ∀ iter n a viaEoi,
        Cand (c.config actions width input) e iter n a viaEoi ↔ LangCand rules ctxAt iter n a viaEoi := by
  obtain ⟨e, rules, hent, hlt, hcore, hreal⟩ := compile_realises items c h name rs b k hmem
  exact ⟨e, rules, hent, hlt, hcore,
    cand_iff_of_realises items c h hok ctxAt hnum name rs b k hmem actions width input e rules hcore hreal⟩

/-- **Maximal munch, end to end.** For a well-formed definition the model compiles, the generated state
code started at the entry of a rule set (no saved match, end-of-input not yet handled) calls the action
`a` of a language-level match of the remaining input that is maximal among ALL language-level matches:
longest, end-of-input match preferred at full length; and `a` is the first rule (in source order) that
matches that lexeme with its right context satisfied. The lexer is advanced by exactly the lexeme. -/
theorem compile_maximal_munch (items : LexerDef) (c : Compiled) (h : compileLexer items = .ok c) (hok : DefOK items)
    (ctxAt : Nat → Regex) (hnum : CtxNumbering items ctxAt)
    (name : String) (rs : List RuleOrBinding) (b : Bindings) (k : Nat) (hmem : (name, rs, b, k) ∈ allRuleSets items)
    (actions : Nat → Action σ τ ε) (width : Nat → Nat) (input : Option (List Nat)) :
    ∃ e rules, IsEntryOf items c name e ∧ coreRules rs b k = some rules ∧
      ∀ (st : LState σ), st.last = none → st.done = false →
        (∀ a st', scan (c.config actions width input) (dispatch (stateArms c.dfa (inlinedStates c.dfa))) e st.iter st = .act a st' →
          ∃ n viaEoi, LangCand rules ctxAt st.iter n a viaEoi ∧
            (∀ n' a' e', LangCand rules ctxAt st.iter n' a' e' → candLe n' e' n viaEoi) ∧
            ∃ s', st' = { advanceBy width st n with last := none, done := viaEoi, state := s' }) ∧
        (∀ loc st', scan (c.config actions width input) (dispatch (stateArms c.dfa (inlinedStates c.dfa))) e st.iter st = .err loc st' →
          (∀ n a e', ¬ LangCand rules ctxAt st.iter n a e') ∧ loc = st.curStart) := by
  obtain ⟨e, rules, hent, hlt, hcore, hiff⟩ :=
    compile_cand_iff items c h hok ctxAt hnum name rs b k hmem actions width input
  refine ⟨e, rules, hent, hcore, ?_⟩
  intro st hlast hdone
  have hm := compileLexer_machineOK items c h hok actions width input
  have hns := dispatchOK_of_machineOK _ hm
  have hscan := scan_eq_scanPlain_of_machineOK _ hm e st hlast
  constructor
  · intro a st' hs
    obtain ⟨n, ve, hc, hmax, s', hst'⟩ :=
      scanPlain_act _ _ hm.targets hns e st hlast hdone a st' (hscan.symm.trans hs)
    exact ⟨n, ve, (hiff st.iter n a ve).mp hc,
      fun n' a' e' hl => hmax n' a' e' ((hiff st.iter n' a' e').mpr hl), s', hst'⟩
  · intro loc st' hs
    have := scanPlain_err _ _ hm.targets hns e st hlast loc st' (hscan.symm.trans hs)
    exact ⟨fun n a e' hl => this.1 n a e' ((hiff st.iter n a e').mpr hl), this.2.1⟩

end Lexgen
