import LexgenModel.Proofs.NextEqSpec
/-!
# Whole runs: any number of calls of the model's `next()` equal the same number of calls of the executable specification
-/
namespace Lexgen
variable {σ τ ε : Type}

/-- `n` calls of the executable reference lexer (mirrors `runN`) -/
def specRunN (items : LexerDef) (cfg : Config σ τ ε) : Nat → LState σ → List (Option (Option (Item τ ε))) × LState σ
  | 0, st => ([], st)
  | n + 1, st =>
    match specNextFull items cfg st with
    | none => ([none], st)
    | some (item, st') =>
      let (its, st'') := specRunN items cfg n st'
      (some item :: its, st'')

theorem specRunN_run (items : LexerDef) (cfg : Config σ τ ε) : IsRun (specNextFull items cfg) (specRunN items cfg) := by
  refine ⟨fun _ => rfl, fun n st => ?_⟩
  rw [specRunN]
  cases specNextFull items cfg st <;> rfl

/-- From any lexer state at a lexeme start — in particular from a freshly constructed lexer — any number of calls of the model of the generated `next()`
produce exactly the items and the final state of the executable reference lexer of the definition. -/
theorem runN_eq_specRunN (items : LexerDef) (c : Compiled) (h : compileLexer items = .ok c) (hok : DefOK items) (hne : DefNE items)
    (actions : Nat → Action σ τ ε) (width : Nat → Nat) (input : Option (List Nat)) :
    ∀ (n : Nat) (st : LState σ), Ready (c.config actions width input) st →
      runN (c.config actions width input) n st = specRunN items (c.config actions width input) n st :=
  (runN_isRun _).congr (specRunN_run items _) (Ready _) fun st hr =>
    ⟨next_eq_specNext items c h hok hne actions width input st hr,
      next_ready _ (compileLexer_machineOK items c h hok actions width input) st hr⟩

/-- a freshly constructed lexer (any of the four constructors) -/
theorem run_fresh_eq_spec (items : LexerDef) (c : Compiled) (h : compileLexer items = .ok c) (hok : DefOK items) (hne : DefNE items)
    (actions : Nat → Action σ τ ε) (width : Nat → Nat) (input : Option (List Nat)) (user : σ) (chars : List Nat) (n : Nat) :
    runN (c.config actions width input) n (initState user chars) = specRunN items (c.config actions width input) n (initState user chars) :=
  runN_eq_specRunN items c h hok hne actions width input n _ (initState_ready _ user chars)

end Lexgen
