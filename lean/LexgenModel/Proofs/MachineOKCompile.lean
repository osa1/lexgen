import LexgenModel.Spec.WellFormed
import LexgenModel.Proofs.Dispatch
import LexgenModel.Proofs.CompileLang
import LexgenModel.Proofs.Backtrack
import LexgenModel.Proofs.NfaShape
import LexgenModel.Proofs.BlockShape
import LexgenModel.Proofs.LangCand
import LexgenModel.Proofs.ScanPlain
/-!
# The machine `lexer()` produces is well-formed (`MachineOK`) for every well-formed definition

* `FullOK`: the structure of the concatenated (unsimplified) DFA that the run-time well-formedness
  needs; every clause is local to a block, so it holds of an automaton covered by placed blocks
  (`Covered`, `fullOK_of_cover`).
* `machineOK_of_full`: `simplify` turns a `FullOK` automaton with closed flags and initial,
  non-accepting entry states into a `MachineOK` machine.
-/

namespace Lexgen

theorem blockOK_of_rules (rules : List CoreRule) (nfa : NFA) (h : buildNfa rules = .ok nfa) (d : DFA Nat)
    (hd : nfaToDfa nfa = some d) (ht : ∀ r ∈ rules, tailEoi r.re) (hp : ∀ r ∈ rules, regexPiecesOK r.re) :
    BlockOK d := by
  have hb := RuleSetLang.built_buildNfa rules hp nfa h
  obtain ⟨h0, he⟩ := buildNfa_shape rules nfa h ht
  exact blockOK_of_nfa nfa hb.wf ((Thompson.targetsNonempty_iff nfa).mp hb.tne) h0 he d hd

namespace MachineOKCompile
open Lexgen.Subset Lexgen.Simplify Lexgen.Static Lexgen.CompileLang

structure FullOK (d : DFA Nat) : Prop where
  targets : TargetsInRange d
  noIntoInit : ∀ s, s < d.length → ∀ t ∈ DFA.succs (d.st s), (d.st t).initial = false
  eoiInert : ∀ s t, s < d.length → (d.st s).eoi = some t → DFA.hasNoTransitions (d.st t) = true
  anyClause : ∀ s a, s < d.length → (d.st s).any = some a →
    ∀ t, (t ∈ (d.st s).chars.map (·.2) ∨ t ∈ (d.st s).ranges.map (·.2.2)) →
      DFA.hasNoTransitions (d.st t) = true →
      DFA.hasNoTransitions (d.st a) = true ∧ isSublist (d.st a).accepting (d.st t).accepting = true

theorem fullOK_of_block {d : DFA Nat} (h : BlockOK d) : FullOK d := by
  refine ⟨h.targets, ?_, h.eoiInert, h.anyClause⟩
  intro s hs t ht
  cases hi : (d.st t).initial with
  | false => rfl
  | true =>
    have := h.initOnly0 t hi
    subst this
    exact absurd ht (h.noInto0 s hs)

theorem hasNoTrans_teq {s s' : DState Nat} (h : TEq s s') :
    DFA.hasNoTransitions s = DFA.hasNoTransitions s' := by
  unfold DFA.hasNoTransitions
  rw [h.chars, h.ranges, h.any, h.eoi]

theorem hasNoTrans_shift (k : Nat) (s : DState Nat) :
    DFA.hasNoTransitions (shiftState k s) = DFA.hasNoTransitions s := by
  rw [Bool.eq_iff_iff, DFA.hasNoTransitions_iff, DFA.hasNoTransitions_iff]
  show List.map _ s.chars = [] ∧ List.map _ s.ranges = [] ∧ Option.map _ s.any = none ∧ Option.map _ s.eoi = none ↔ _
  rw [List.map_eq_nil_iff, List.map_eq_nil_iff, Option.map_eq_none_iff, Option.map_eq_none_iff]

theorem shift_tgts (k : Nat) (s : DState Nat) :
    (shiftState k s).chars.map (·.2) ++ (shiftState k s).ranges.map (·.2.2) =
      (s.chars.map (·.2) ++ s.ranges.map (·.2.2)).map (· + k) := by
  unfold shiftState RangeMap.mapVals
  simp only [List.map_append, List.map_map]
  rfl

variable {full dR : DFA Nat} {off : Nat}

theorem _root_.Lexgen.CompileLang.Placed.tgt (hP : Placed full off dR) {v : Nat} (hv : v < dR.length) :
    DFA.hasNoTransitions (full.st (v + off)) = DFA.hasNoTransitions (dR.st v) ∧
    (full.st (v + off)).accepting = (dR.st v).accepting ∧
    (full.st (v + off)).initial = (dR.st v).initial := by
  rw [Nat.add_comm]
  obtain ⟨ht, hi⟩ := hP.st v hv
  exact ⟨(hasNoTrans_teq ht).trans (hasNoTrans_shift off _), ht.acc, hi⟩

theorem _root_.Lexgen.CompileLang.Placed.lt (hP : Placed full off dR) {v : Nat} (hv : v < dR.length) : v + off < full.length :=
  Nat.lt_of_lt_of_le (Nat.add_lt_add_right hv off) (Nat.add_comm off _ ▸ hP.bound)

/-- `full` is made of blocks of well-formed rule sets: every state lies in a placed automaton that has
the block shape and whose state 0 accepts nothing (no rule matches the empty string) -/
def Covered (full : DFA Nat) : Prop :=
  ∀ s, s < full.length → ∃ off dR, BlockOK dR ∧ (dR.st 0).accepting = [] ∧ Placed full off dR ∧
    off ≤ s ∧ s < off + dR.length

theorem Covered.view (h : Covered full) {s : Nat} (hs : s < full.length) :
    ∃ off dR u, BlockOK dR ∧ (dR.st 0).accepting = [] ∧ Placed full off dR ∧ u < dR.length ∧ s = u + off := by
  obtain ⟨off, dR, hB, h0, hP, h1, h2⟩ := h s hs
  exact ⟨off, dR, s - off, hB, h0, hP, Nat.sub_lt_left_of_lt_add h1 h2, (Nat.sub_add_cancel h1).symm⟩

theorem fullOK_of_pieces
    (h : ∀ s, s < full.length → ∃ off dR, FullOK dR ∧ Placed full off dR ∧ off ≤ s ∧ s < off + dR.length) :
    FullOK full := by
  have view : ∀ s, s < full.length → ∃ off dR u, FullOK dR ∧ Placed full off dR ∧ u < dR.length ∧
      TEq (full.st s) (shiftState off (dR.st u)) := by
    intro s hs
    obtain ⟨off, dR, hR, hP, h1, h2⟩ := h s hs
    have hu : s - off < dR.length := Nat.sub_lt_left_of_lt_add h1 h2
    have := (hP.st _ hu).1
    rw [Nat.add_sub_cancel' h1] at this
    exact ⟨off, dR, s - off, hR, hP, hu, this⟩
  refine ⟨?_, ?_, ?_, ?_⟩
  · intro s hs t ht
    obtain ⟨off, dR, u, hR, hP, hu, hte⟩ := view s hs
    rw [succs_teq hte, succs_shift] at ht
    obtain ⟨v, hv, rfl⟩ := List.mem_map.mp ht
    exact hP.lt (hR.targets u hu v hv)
  · intro s hs t ht
    obtain ⟨off, dR, u, hR, hP, hu, hte⟩ := view s hs
    rw [succs_teq hte, succs_shift] at ht
    obtain ⟨v, hv, rfl⟩ := List.mem_map.mp ht
    rw [(hP.tgt (hR.targets u hu v hv)).2.2]
    exact hR.noIntoInit u hu v hv
  · intro s t hs he
    obtain ⟨off, dR, u, hR, hP, hu, hte⟩ := view s hs
    rw [hte.eoi] at he
    obtain ⟨v, hv, rfl⟩ := Option.map_eq_some_iff.mp he
    rw [(hP.tgt (hR.targets u hu v (eoi_mem_succs hv))).1]
    exact hR.eoiInert u v hu hv
  · intro s a hs ha t ht hn
    obtain ⟨off, dR, u, hR, hP, hu, hte⟩ := view s hs
    rw [hte.any] at ha
    obtain ⟨b, hb, rfl⟩ := Option.map_eq_some_iff.mp ha
    rw [← List.mem_append, hte.chars, hte.ranges, shift_tgts] at ht
    obtain ⟨v, hv, rfl⟩ := List.mem_map.mp ht
    have hbl := hR.targets u hu b (any_mem_succs _ _ hb)
    have hvl : v < dR.length := hR.targets u hu v (by
      unfold DFA.succs
      exact List.mem_append_left _ (List.mem_append_left _ hv))
    rw [(hP.tgt hvl).1] at hn
    rw [(hP.tgt hbl).1, (hP.tgt hbl).2.1, (hP.tgt hvl).2.1]
    exact hR.anyClause u b hu hb v (List.mem_append.1 hv) hn

theorem fullOK_of_cover (h : Covered full) : FullOK full :=
  fullOK_of_pieces fun s hs =>
    let ⟨off, dR, hB, _, hP, h12⟩ := h s hs
    ⟨off, dR, fullOK_of_block hB, hP, h12⟩

theorem Covered.initial_acc (h : Covered full) {s : Nat} (hi : (full.st s).initial = true) :
    (full.st s).accepting = [] := by
  obtain ⟨off, dR, u, hB, h0, hP, hu, rfl⟩ := h.view (st_initial_lt hi)
  obtain ⟨_, hacc, hini⟩ := hP.tgt hu
  cases hB.initOnly0 u (hini.symm.trans hi)
  exact hacc.trans h0

theorem mapTransition_eq_goto {d : DFA Nat} {E : List Nat} {u t : Nat} :
    mapTransition d E u = .goto t ↔ E.contains u = false ∧ t = u - removedBelow E u := by
  unfold mapTransition
  cases E.contains u <;> simp [eq_comm]

theorem mapTransition_eq_accept {d : DFA Nat} {E : List Nat} {u : Nat} {accs : List Acc} :
    mapTransition d E u = .accept accs ↔ E.contains u = true ∧ accs = (d.st u).accepting := by
  unfold mapTransition
  cases E.contains u <;> simp [eq_comm]

theorem removed_iff (d : DFA Nat) (u : Nat) : (emptyStates d).contains u = true ↔
    u < d.length ∧ DFA.hasNoTransitions (d.st u) = true ∧ (d.st u).initial = false := by
  rw [contains_emptyStates]
  simp only [Simplify.isEmpty, Bool.and_eq_true, decide_eq_true_eq, Bool.not_eq_true']

theorem elem_of_simplified (d : DFA Nat) (entries : List (String × Nat)) (d' : DFA Trans)
    (entries' : List (String × Nat)) (h : simplify d entries = .ok (d', entries')) (y : DState Trans) (hy : y ∈ d') :
    ∃ x, x < d.length ∧ (emptyStates d).contains x = false ∧
      simplifyState d (emptyStates d) (d.st x) = .ok y := by
  obtain ⟨hm, _⟩ := simplify_ok d entries d' entries' h
  obtain ⟨hlen, hget⟩ := mapM_ok _ _ _ hm
  obtain ⟨i, hi, rfl⟩ := List.getElem_of_mem hy
  have hi' : i < (kept d).length := by rw [← hlen]; exact hi
  obtain ⟨y', hy1, hy2⟩ := hget i ((kept d)[i]) (List.getElem?_eq_getElem hi')
  rw [List.getElem?_eq_getElem hi] at hy1
  cases hy1
  have hmem : (kept d)[i] ∈ kept d := List.getElem_mem hi'
  unfold kept at hmem
  rw [List.mem_filter, List.mem_range] at hmem
  exact ⟨_, hmem.1, by simpa using hmem.2, hy2⟩

theorem succs_simplified {d : DFA Nat} {E : List Nat} {x : DState Nat} {y : DState Trans}
    (h : simplifyState d E x = .ok y) : DFA.succs y = (DFA.succs x).map (mapTransition d E) := by
  obtain ⟨_, h2, h3, h4, h5, _, _⟩ := simplifyState_ok _ _ _ _ h
  unfold DFA.succs
  rw [h2, h3, h4, h5]
  unfold RangeMap.mapVals
  simp only [List.map_append, List.map_map]
  cases x.any <;> cases x.eoi <;> rfl

theorem chars_simplified {d : DFA Nat} {E : List Nat} {x : DState Nat} {y : DState Trans}
    (h : simplifyState d E x = .ok y) :
    y.chars.map (·.2) ++ y.ranges.map (·.2.2) =
      (x.chars.map (·.2) ++ x.ranges.map (·.2.2)).map (mapTransition d E) := by
  obtain ⟨_, h2, h3, _, _, _, _⟩ := simplifyState_ok _ _ _ _ h
  rw [h2, h3]
  unfold RangeMap.mapVals
  simp only [List.map_append, List.map_map]
  rfl

theorem gotoSuccs_simplified {d : DFA Nat} {E : List Nat} {x : DState Nat} {y : DState Trans}
    (h : simplifyState d E x = .ok y) {t : Nat} (ht : t ∈ gotoSuccs y) :
    ∃ u, u ∈ DFA.succs x ∧ E.contains u = false ∧ t = u - removedBelow E u := by
  unfold gotoSuccs at ht
  rw [succs_simplified h, List.mem_filterMap] at ht
  obtain ⟨tr, htr, hg⟩ := ht
  obtain ⟨u, hu, rfl⟩ := List.mem_map.mp htr
  cases hm : mapTransition d E u with
  | accept accs => rw [hm] at hg; cases hg
  | goto t' =>
    rw [hm] at hg
    cases hg
    obtain ⟨h1, h2⟩ := mapTransition_eq_goto.1 hm
    exact ⟨u, hu, h1, h2⟩

variable {σ τ ε : Type}

theorem machineOK_of_full (d : DFA Nat) (entries0 : List (String × Nat)) (d' : DFA Trans)
    (entries' : List (String × Nat)) (hs : simplify d entries0 = .ok (d', entries')) (hF : FullOK d)
    (hcl : ∀ s, s < d.length → ∀ t ∈ DFA.succs (d.st s),
      ((d.st s).backtrack || !(d.st s).accepting.isEmpty) = true → (d.st t).backtrack = true)
    (h0 : (d.st 0).initial = true ∧ (d.st 0).accepting = [])
    (hent : ∀ p ∈ entries0, (d.st p.2).initial = true ∧ (d.st p.2).accepting = [])
    (ctxs : List (DFA Nat)) (actions : Nat → Action σ τ ε) (width : Nat → Nat) (input : Option (List Nat)) :
    MachineOK { dfa := d', ctxs := ctxs, entries := entries', inl := inlinedStates d', actions := actions, width := width, input := input } := by
  have hT := hF.targets
  obtain ⟨hent', _, hS⟩ := simplify_spec d entries0 d' entries' hs hT
  have hinit : ∀ e, (d.st e).initial = true ∧ (d.st e).accepting = [] →
      newIdx d e < d'.length ∧ (d'.st (newIdx d e)).initial = true ∧ (d'.st (newIdx d e)).accepting = [] := by
    intro e ⟨hi, ha⟩
    obtain ⟨h1, h2, h3, _⟩ := hS e (st_initial_lt hi) (not_removed_of_initial hi)
    exact ⟨h1, h3.trans hi, h2.trans ha⟩
  -- a state without transitions that is a target is removed
  have hrem : ∀ x, x < d.length → ∀ u ∈ DFA.succs (d.st x), DFA.hasNoTransitions (d.st u) = true →
      mapTransition d (emptyStates d) u = .accept (d.st u).accepting := fun x hx u hu hn =>
    mapTransition_eq_accept.2 ⟨(removed_iff d u).2 ⟨hT x hx u hu, hn, hF.noIntoInit x hx u hu⟩, rfl⟩
  -- a `goto` of the simplified automaton comes from a transition to a kept state
  have hgoto : ∀ y ∈ d', ∀ t ∈ gotoSuccs y, ∃ x u, x < d.length ∧ u ∈ DFA.succs (d.st x) ∧
      y.backtrack = (d.st x).backtrack ∧ y.accepting = (d.st x).accepting ∧
      t < d'.length ∧ (d'.st t).initial = false ∧ (d'.st t).backtrack = (d.st u).backtrack := by
    intro y hy t ht
    obtain ⟨x, hx, _, hst⟩ := elem_of_simplified d entries0 d' entries' hs y hy
    obtain ⟨_, _, _, _, _, h6, h7⟩ := simplifyState_ok _ _ _ _ hst
    obtain ⟨u, hu, hk, rfl⟩ := gotoSuccs_simplified hst ht
    obtain ⟨h1, _, h3, h4, _⟩ := hS u (hT x hx u hu) hk
    exact ⟨x, u, hx, hu, h7, h6, h1, h3.trans (hF.noIntoInit x hx u hu), h4⟩
  refine
    { flags := ?_
      acceptAny := ?_
      targets := ?_
      inl := inlOK_inlinedStates d'
      state0 := Simplify.newIdx_zero d ▸ hinit 0 h0
      entries := ?_
      eoiAccept := ?_ }
  · refine List.all_eq_true.2 fun y hy => decide_eq_true fun hb => List.all_eq_true.2 fun t ht => ?_
    obtain ⟨x, u, hx, hu, h7, h6, _, _, hbt⟩ := hgoto y hy t ht
    rw [h7, h6] at hb
    exact hbt.trans (hcl x hx u hu hb)
  · refine List.all_eq_true.2 fun y hy => ?_
    obtain ⟨x, hx, _, hst⟩ := elem_of_simplified d entries0 d' entries' hs y hy
    obtain ⟨_, _, _, h4, _⟩ := simplifyState_ok _ _ _ _ hst
    cases hya : y.any with
    | none => rfl
    | some anyT =>
      obtain ⟨a, hxa, rfl⟩ := Option.map_eq_some_iff.1 (h4.symm.trans hya)
      refine List.all_eq_true.2 fun tr htr => ?_
      rw [chars_simplified hst] at htr
      obtain ⟨u, hu, rfl⟩ := List.mem_map.mp htr
      cases hm : mapTransition d (emptyStates d) u with
      | goto t => rfl
      | accept accs =>
        obtain ⟨hcu, rfl⟩ := mapTransition_eq_accept.1 hm
        obtain ⟨hna, hsub⟩ := hF.anyClause x a hx hxa u (List.mem_append.mp hu) ((removed_iff d u).1 hcu).2.1
        rw [hrem x hx a (any_mem_succs _ _ hxa) hna]
        exact hsub
  · refine List.all_eq_true.2 fun y hy => List.all_eq_true.2 fun t ht => ?_
    obtain ⟨_, _, _, _, _, _, hlt, hi, _⟩ := hgoto y hy t ht
    rw [hi, decide_eq_true hlt]
    rfl
  · intro p hp
    rw [show _ = entries' from rfl, hent'] at hp
    obtain ⟨q, hq, rfl⟩ := List.mem_map.mp hp
    exact hinit q.2 (hent q hq)
  · intro s t hst
    rcases ScanPlain.st_mem_or_empty d' s with hy | he
    · obtain ⟨x, hx, _, hstx⟩ := elem_of_simplified d entries0 d' entries' hs _ hy
      obtain ⟨_, _, _, _, h5, _⟩ := simplifyState_ok _ _ _ _ hstx
      obtain ⟨u, hxe, hm⟩ := Option.map_eq_some_iff.1 (h5.symm.trans hst)
      rw [hrem x hx u (eoi_mem_succs hxe) (hF.eoiInert x u hx hxe)] at hm
      cases hm
    · rw [show (_ : DState Trans) = d'.st s from rfl, he] at hst
      cases hst


theorem closed_of_updateBacktracks (d d' : DFA Nat) (hT : TargetsInRange d) (h : updateBacktracks d = some d') :
    ∀ s, s < d'.length → ∀ t ∈ DFA.succs (d'.st s),
      ((d'.st s).backtrack || !(d'.st s).accepting.isEmpty) = true → (d'.st t).backtrack = true := by
  obtain ⟨hlen, hsame, hcl⟩ := Backtrack.backtrack_closed d d' hT h
  intro s hs t ht hb
  rw [hlen] at hs
  rw [(hsame s).1] at ht
  rw [(hsame s).2.1] at hb
  exact hcl s hs t ht hb

/-- `update_backtracks` ran on the whole automaton; `simplify` keeps this, and it becomes the clause `flags` of `MachineOK` -/
theorem compile_closed {items : LexerDef} {c : Compiled} (h : compileLexer items = .ok c) :
    ∀ s, s < c.full.length → ∀ t ∈ DFA.succs (c.full.st s),
      ((c.full.st s).backtrack || !(c.full.st s).accepting.isEmpty) = true → (c.full.st t).backtrack = true := by
  obtain ⟨_, g, d0, hfold, hd, hu, _⟩ := compileLexer_ok_decomp h
  refine closed_of_updateBacktracks d0 c.full ?_ hu
  rcases hd with hd | ⟨_, hn⟩
  · obtain ⟨_, _, hB⟩ := (fold_laid hfold).blocks
    exact (hB.built d0 hd).tir
  · exact (Subset.nfaToDfa_inRange hn).1

theorem block_ok {full : DFA Nat} {ctxs : List (DFA Nat)} {e0 : Nat} {dR : DFA Nat} {x : Scoped}
    (hB : Block full ctxs e0 dR x)
    (hok : ∀ rules, coreRules x.2.1 x.2.2.1 x.2.2.2 = some rules → ∀ r ∈ rules, RuleOK r) :
    BlockOK dR ∧ (dR.st 0).accepting = [] ∧ Placed full e0 dR ∧ (full.st e0).initial = true := by
  obtain ⟨cpre, _, hk, hc, _, hP⟩ := hB
  obtain ⟨rules, nfa, hcore, hbuild, hnd⟩ := compileRuleSet_core _ _ _ _ _ hc
  have hro := hok rules (hk ▸ hcore)
  have hp : ∀ r ∈ rules, regexPiecesOK r.re := fun r hr => (hro r hr).pieces
  have hblock := blockOK_of_rules rules nfa hbuild dR hnd (fun r hr => (hro r hr).tail) hp
  refine ⟨hblock, ?_, hP, hP.initial hblock.init0.2⟩
  rw [(ruleSet_lang rules hp nfa hbuild dR hnd [] : (dR.st 0).accepting = _)]
  exact matchingAccs_eq_nil_iff.2 fun r hr => (hro r hr).nonNull

end MachineOKCompile

variable {σ τ ε : Type} in
/-- The machine the model of `lexer()` builds from a well-formed definition satisfies `MachineOK`, the hypothesis of
the run-time theorems: every state lies in a placed block of a well-formed rule set (`compile_blocks`, `block_ok`), so the
concatenated automaton is `FullOK`, and `simplify` keeps that (`machineOK_of_full`). -/
theorem compileLexer_machineOK (items : LexerDef) (c : Compiled) (h : compileLexer items = .ok c) (hok : DefOK items)
    (actions : Nat → Action σ τ ε) (width : Nat → Nat) (input : Option (List Nat)) :
    MachineOK (c.config actions width input) := by
  obtain ⟨_, hsimp, _, hunnamed, hcover, hnamed, hinit⟩ := CompileLang.compile_blocks h
  have hblk : ∀ x ∈ allRuleSets items, ∀ e0 dR, CompileLang.Block c.full c.ctxs e0 dR x →
      BlockOK dR ∧ (dR.st 0).accepting = [] ∧ CompileLang.Placed c.full e0 dR ∧ (c.full.st e0).initial = true :=
    fun x hx _ _ hB => MachineOKCompile.block_ok hB (hok.rules x.1 x.2.1 x.2.2.1 x.2.2.2 hx)
  have hcov : MachineOKCompile.Covered c.full := by
    intro s hs
    obtain ⟨x, hx, e0, dR, hB, h12⟩ := hcover s hs
    obtain ⟨hblock, hacc, hP, _⟩ := hblk x hx e0 dR hB
    exact ⟨e0, dR, hblock, hacc, hP, h12⟩
  have hent : ∀ p ∈ c.entries0, (c.full.st p.2).initial = true := by
    intro p hp
    obtain ⟨x, hx, _, dR, hB⟩ := hnamed p hp
    exact (hblk x hx p.2 dR hB).2.2.2
  have h0 : (c.full.st 0).initial = true := by
    cases hrs : hasRuleSets items with
    | true => exact hent _ (hinit hrs)
    | false =>
      obtain ⟨_, dR, hB⟩ := hunnamed hrs
      exact (hblk _ (allRuleSets_unnamed hrs ▸ List.mem_singleton.2 rfl) 0 dR hB).2.2.2
  exact MachineOKCompile.machineOK_of_full c.full c.entries0 c.dfa c.entries hsimp (MachineOKCompile.fullOK_of_cover hcov)
    (MachineOKCompile.compile_closed h) ⟨h0, hcov.initial_acc h0⟩
    (fun p hp => ⟨hent p hp, hcov.initial_acc (hent p hp)⟩) c.ctxs actions width input

end Lexgen
