import LexgenModel.Proofs.Entries
import LexgenModel.Proofs.BlockViable
/-!
# Compile side of `next = specNext`: from the entry of every rule set, the compiled machine is in a
*state* (not dead, not a terminal configuration) after a non-empty word exactly when the word can be
extended by one more symbol towards a word of some rule of that rule set.

The block DFA of a rule set is trim (`block_viable`); it sits in the concatenated automaton as
`compile_blocks` says, and is followed from there through `simplify` (`compile_ext`).
-/
namespace Lexgen
namespace NextEqSpec
open Lexgen.Subset Lexgen.Simplify Lexgen.Static Lexgen.CompileLang Lexgen.MachineOKCompile

def RulesHyp (rules : List CoreRule) : Prop :=
  (∀ r ∈ rules, RuleOK r) ∧ (∀ r ∈ rules, NoEmptyPieces r.re)

/-- from `e` the word `w` leads to a state `simplify` keeps -/
def LiveN (d : DFA Nat) (e : Nat) (w : List Nat) : Prop :=
  ∃ t, reachN d e w = some t ∧ Simplify.isEmpty d t = false

/-- kept states after non-empty words = extendable words -/
def ExtN (d : DFA Nat) (e : Nat) (rules : List CoreRule) : Prop :=
  ∀ w, w ≠ [] → (LiveN d e w ↔ Extendable rules w)

def EntryExt (d : DFA Trans) (e : Nat) (rules : List CoreRule) : Prop :=
  ∀ w, w ≠ [] → ((∃ t, reach d (.st e) w = some (.st t)) ↔ Extendable rules w)

theorem extendable_viable {rules : List CoreRule} {w : List Nat} (h : Extendable rules w) : Viable rules w := by
  obtain ⟨r, hr, x, v, hd⟩ := h
  exact ⟨r, hr, x :: v, hd⟩

theorem reachN_last_succ (d : DFA Nat) (hT : TargetsInRange d) (w : List Nat) :
    ∀ s, s < d.length → w ≠ [] → ∀ t, reachN d s w = some t → ∃ s', s' < d.length ∧ t ∈ DFA.succs (d.st s') := by
  induction w with
  | nil => intro s _ h; exact absurd rfl h
  | cons x w ih =>
    intro s hs _ t h
    simp only [reachN] at h
    cases hl : lookupTrans (d.st s) x with
    | none => rw [hl] at h; cases h
    | some u =>
      rw [hl] at h
      have hu := lookupTrans_mem_succs _ _ _ hl
      by_cases hw : w = []
      · subst hw
        simp only [reachN, Option.some.injEq] at h
        subst h
        exact ⟨s, hs, hu⟩
      · exact ih u (hT s hs u hu) hw t h

theorem extN_block (rules : List CoreRule) (nfa : NFA) (d : DFA Nat)
    (h : buildNfa rules = .ok nfa) (hd : nfaToDfa nfa = some d) (hR : RulesHyp rules) : ExtN d 0 rules := by
  have hB : BlockOK d := blockOK_of_rules rules nfa h d hd (fun r hr => (hR.1 r hr).tail) (fun r hr => (hR.1 r hr).pieces)
  intro w hw
  obtain ⟨hv1, hv2⟩ := block_viable rules (fun r hr => (hR.1 r hr).pieces) hR.2 nfa h d hd w
  have hni : ∀ t, reachN d 0 w = some t → (d.st t).initial = false := by
    intro t ht
    obtain ⟨s', hs', hmem⟩ := reachN_last_succ d hB.targets w 0 hB.init0.1 hw t ht
    cases hi : (d.st t).initial with
    | false => rfl
    | true =>
      have := hB.initOnly0 t hi
      subst this
      exact absurd hmem (hB.noInto0 s' hs')
  constructor
  · rintro ⟨t, ht, hk⟩
    apply (hv2 t ht).mp
    unfold Simplify.isEmpty at hk
    rw [hni t ht] at hk
    simpa using hk
  · intro hx
    cases ht : reachN d 0 w with
    | none => exact absurd (extendable_viable hx) (hv1.mp ht).2
    | some t =>
      refine ⟨t, ht, ?_⟩
      unfold Simplify.isEmpty
      rw [(hv2 t ht).mpr hx]
      rfl

theorem _root_.Lexgen.CompileLang.Placed.liveN {full dR : DFA Nat} {off : Nat} (h : Placed full off dR) (hT : TargetsInRange dR)
    (h0 : 0 < dR.length) (w : List Nat) : LiveN full off w ↔ LiveN dR 0 w := by
  obtain ⟨hreach, hlt⟩ := h.reachSym hT (w.map Sym.ch) 0 h0
  rw [reachSym_ch, reachSym_ch, Nat.add_zero] at hreach
  rw [reachSym_ch] at hlt
  have hem : ∀ u, u < dR.length → Simplify.isEmpty full (off + u) = Simplify.isEmpty dR u := by
    intro u hu
    unfold Simplify.isEmpty
    rw [hasNoTrans_teq (h.st u hu).1, (h.st u hu).2, hasNoTrans_shift]
  unfold LiveN
  rw [hreach]
  constructor
  · rintro ⟨t, ht, hk⟩
    obtain ⟨u, hu, rfl⟩ := Option.map_eq_some_iff.mp ht
    exact ⟨u, hu, (hem u (hlt u hu)).symm.trans hk⟩
  · rintro ⟨u, hu, hk⟩
    exact ⟨off + u, by rw [hu]; rfl, (hem u (hlt u hu)).trans hk⟩

theorem ext_simplify (d : DFA Nat) (entries : List (String × Nat)) (d' : DFA Trans) (entries' : List (String × Nat))
    (h : simplify d entries = .ok (d', entries')) (hT : TargetsInRange d) (e0 : Nat)
    (hi : (d.st e0).initial = true) (w : List Nat) :
    (∃ t, reach d' (.st (newIdx d e0)) w = some (.st t)) ↔ LiveN d e0 w := by
  have he := st_initial_lt hi
  have hk := not_removed_of_initial hi
  have hcfg : cfgOf d e0 = .st (newIdx d e0) := by
    simp only [cfgOf, hk, Bool.false_eq_true, if_false]
  rw [← hcfg, reach_cfg d entries d' entries' h hT w e0 he]
  unfold LiveN
  have hc : ∀ u, u < d.length → ((∃ t, cfgOf d u = .st t) ↔ Simplify.isEmpty d u = false) := by
    intro u hu
    unfold cfgOf
    rw [contains_emptyStates]
    simp only [hu, decide_true, Bool.true_and]
    cases Simplify.isEmpty d u with
    | true => simp
    | false => simp
  constructor
  · rintro ⟨t, ht⟩
    obtain ⟨u, hu, hcu⟩ := Option.map_eq_some_iff.mp ht
    exact ⟨u, hu, (hc u (reachN_lt d hT w e0 he u hu)).mp ⟨t, hcu⟩⟩
  · rintro ⟨u, hu, hk'⟩
    obtain ⟨t, ht⟩ := (hc u (reachN_lt d hT w e0 he u hu)).mpr hk'
    exact ⟨t, Option.map_eq_some_iff.mpr ⟨u, hu, ht⟩⟩

theorem _root_.Lexgen.CompileLang.Block.ext {full dR : DFA Nat} {ctxs : List (DFA Nat)} {e0 : Nat} {x : Scoped}
    {entries entries' : List (String × Nat)} {d' : DFA Trans} (hB : Block full ctxs e0 dR x)
    (hT : TargetsInRange full) (hs : simplify full entries = .ok (d', entries')) :
    ∃ rules, coreRules x.2.1 x.2.2.1 x.2.2.2 = some rules ∧ (RulesHyp rules → EntryExt d' (newIdx full e0) rules) := by
  obtain ⟨cpre, c1, hk, hc, _, hP⟩ := hB
  obtain ⟨rules, nfa, hcore, hbuild, hnd⟩ := compileRuleSet_core _ _ _ _ _ hc
  obtain ⟨hTR, hI⟩ := nfaToDfa_inRange hnd
  refine ⟨rules, hk ▸ hcore, fun hR w hw => ?_⟩
  rw [ext_simplify full entries d' entries' hs hT e0 (hP.initial hI) w, hP.liveN hTR (st_initial_lt hI) w]
  exact extN_block rules nfa dR hbuild hnd hR w hw

theorem compile_ext (items : LexerDef) (c : Compiled) (h : compileLexer items = .ok c)
    (name : String) (rs : List RuleOrBinding) (b : Bindings) (k : Nat) (hmem : (name, rs, b, k) ∈ allRuleSets items) :
    ∃ e rules, IsEntryOf items c name e ∧ coreRules rs b k = some rules ∧
      (RulesHyp rules → EntryExt c.dfa e rules) := by
  obtain ⟨hT, hs, hnamed, hunnamed, _⟩ := compile_blocks h
  have hent := (Simplify.simplify_ok _ _ _ _ hs).2
  cases hrs : hasRuleSets items with
  | true =>
    rw [allRuleSets_named hrs] at hmem
    obtain ⟨e0, dR, hm, hb⟩ := hnamed _ hmem
    obtain ⟨rules, hc, hE⟩ := hb.ext hT hs
    refine ⟨newIdx c.full e0, rules, (isEntryOf_named hrs c name _).mpr ?_, hc, hE⟩
    rw [hent]
    exact List.mem_map.mpr ⟨(name, e0), hm, rfl⟩
  | false =>
    rw [allRuleSets_unnamed hrs, List.mem_singleton] at hmem
    cases hmem
    obtain ⟨_, dR, hb⟩ := hunnamed hrs
    obtain ⟨rules, hc, hE⟩ := hb.ext hT hs
    exact ⟨0, rules, (isEntryOf_unnamed hrs c _ 0).mpr rfl, hc, Simplify.newIdx_zero c.full ▸ hE⟩

end NextEqSpec
end Lexgen
