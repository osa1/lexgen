import LexgenModel.Model.RangeMap
/-!
# `RangeMap::insert` and `RangeMap::insert_ranges` specifications

Both preserve well-formedness, and the result is the point-wise merge of the inputs. Only the loop of
`insert_ranges` is verified iteration by iteration (`step_one`, `step_skip`): `insert` computes
`insert_ranges` with a one-range map (`insertAux_eq_insertRanges`). The last section (`mem_insertAux`)
says which end points and values a range emitted by `insertAux` can have, without any well-formedness.
-/

namespace Lexgen.RangeMap
variable {α : Type}

/-- `SortedFrom` on lists of ranges without values (`Search.sortedFrom_iff_wfFrom`) and `Subset.CMFrom`
on character maps are the same order; `canonicalRanges` and `Canon` of the table generator ask in
addition for a scalar value between consecutive ranges (`ClassEval.wfFrom_of_canonical`). -/
def WFFrom (lo : Nat) : RangeMap α → Prop
  | [] => True
  | (s, e, _) :: rest => lo ≤ s ∧ s ≤ e ∧ WFFrom (e + 1) rest

theorem WFFrom.mono {lo lo' : Nat} {l : RangeMap α} (h : WFFrom lo l) (hle : lo' ≤ lo) : WFFrom lo' l := by
  cases l with
  | nil => trivial
  | cons r rest => exact ⟨Nat.le_trans hle h.1, h.2⟩

theorem WFFrom.mem {lo : Nat} {l : RangeMap α} (h : WFFrom lo l) {r : Nat × Nat × α} (hr : r ∈ l) :
    lo ≤ r.1 ∧ r.1 ≤ r.2.1 := by
  induction l generalizing lo with
  | nil => cases hr
  | cons q rest ih =>
    rcases List.mem_cons.mp hr with rfl | hr
    · exact ⟨h.1, h.2.1⟩
    · have ⟨h1, h2⟩ := ih h.2.2 hr
      exact ⟨Nat.le_trans (Nat.le_succ_of_le (Nat.le_trans h.1 h.2.1)) h1, h2⟩

theorem lookup_none_of_lt {lo : Nat} {l : RangeMap α} (h : WFFrom lo l) {c : Nat} (hc : c < lo) : lookup l c = none := by
  induction l generalizing lo with
  | nil => rfl
  | cons r rest ih =>
    obtain ⟨s, e, v⟩ := r
    rw [lookup, if_neg fun hs => Nat.not_le_of_lt hc (Nat.le_trans h.1 hs.1)]
    exact ih h.2.2 (Nat.lt_succ_of_lt (Nat.lt_of_lt_of_le hc (Nat.le_trans h.1 h.2.1)))

theorem lookup_le_end {s e : Nat} {v : α} {rest : RangeMap α} (h : WFFrom (e + 1) rest) {c : Nat}
    (hc : c ≤ e) : lookup ((s, e, v) :: rest) c = if s ≤ c then some v else none := by
  rw [lookup]
  by_cases hs : s ≤ c
  · rw [if_pos ⟨hs, hc⟩, if_pos hs]
  · rw [if_neg fun h => hs h.1, if_neg hs]
    exact lookup_none_of_lt h (Nat.lt_succ_of_le hc)

theorem lookup_one {s e : Nat} {v : α} {c : Nat} (hc : c ≤ e) :
    lookup [(s, e, v)] c = if s ≤ c then some v else none :=
  lookup_le_end (rest := []) trivial hc

theorem lookup_head {s e : Nat} {v : α} {rest : RangeMap α} (h : WFFrom (e + 1) rest) {c : Nat} (hc : c ≤ e) :
    lookup ((s, e, v) :: rest) c = lookup [(s, e, v)] c := by
  rw [lookup_le_end h hc, lookup_one hc]

theorem lookup_gt_end {s e : Nat} {v : α} {rest : RangeMap α} {c : Nat} (hc : e < c) :
    lookup ((s, e, v) :: rest) c = lookup rest c :=
  if_neg fun h => Nat.not_le_of_lt hc h.2

theorem exists_mem_cons {β : Type} {p : β → Prop} {a : β} {l : List β} :
    (∃ r ∈ a :: l, p r) ↔ p a ∨ ∃ r ∈ l, p r := by
  simp only [List.mem_cons, or_and_right, exists_or, exists_eq_left]

theorem lookup_eq_some_iff {lo : Nat} {l : RangeMap α} (h : WFFrom lo l) {c : Nat} {v : α} :
    lookup l c = some v ↔ ∃ r ∈ l, r.1 ≤ c ∧ c ≤ r.2.1 ∧ r.2.2 = v := by
  induction l generalizing lo with
  | nil => exact ⟨nofun, fun ⟨_, hr, _⟩ => nomatch hr⟩
  | cons q rest ih =>
    obtain ⟨s, e, w⟩ := q
    rw [exists_mem_cons, lookup]
    by_cases hc : s ≤ c ∧ c ≤ e
    · rw [if_pos hc]
      refine ⟨fun hv => Or.inl ⟨hc.1, hc.2, Option.some.inj hv⟩, ?_⟩
      rintro (⟨_, _, rfl⟩ | ⟨r, hr, h1, _⟩)
      · rfl
      · have := (h.2.2.mem hr).1
        omega
    · rw [if_neg hc, ih h.2.2]
      exact ⟨Or.inr, fun hr => hr.resolve_left fun hq => hc ⟨hq.1, hq.2.1⟩⟩

theorem lookup_isSome_iff {l : RangeMap α} {c : Nat} :
    (lookup l c).isSome = true ↔ ∃ r ∈ l, r.1 ≤ c ∧ c ≤ r.2.1 := by
  induction l with
  | nil => exact ⟨nofun, fun ⟨_, hr, _⟩ => nomatch hr⟩
  | cons q rest ih =>
    obtain ⟨s, e, w⟩ := q
    rw [exists_mem_cons, lookup]
    by_cases hc : s ≤ c ∧ c ≤ e
    · rw [if_pos hc]
      exact ⟨fun _ => Or.inl hc, fun _ => rfl⟩
    · rw [if_neg hc, ih]
      exact ⟨Or.inr, fun hr => hr.resolve_left hc⟩

def Above (b : Nat) (l l' : RangeMap α) : Prop := ∀ c, b < c → lookup l' c = lookup l c

theorem Above.refl {b : Nat} {l : RangeMap α} : Above b l l := fun _ _ => rfl

theorem Above.tail {s e : Nat} {v : α} {rest : RangeMap α} : Above e ((s, e, v) :: rest) rest :=
  fun _ hc => (lookup_gt_end hc).symm

theorem Above.trim {s e b k : Nat} {v : α} {rest : RangeMap α} (hs : s ≤ k) (hk : k ≤ b + 1) :
    Above b ((s, e, v) :: rest) ((k, e, v) :: rest) := fun c hc => by
  rw [lookup, lookup]
  by_cases hce : c ≤ e
  · rw [if_pos ⟨Nat.le_trans hk hc, hce⟩, if_pos ⟨Nat.le_trans hs (Nat.le_trans hk hc), hce⟩]
  · rw [if_neg fun h => hce h.2, if_neg fun h => hce h.2]

section Step
variable {β γ : Type} {g : Option α → Option β → Option γ} {X : RangeMap γ} {l1 l1' : RangeMap α}
  {l2 l2' : RangeMap β} {lo b : Nat}

/-- One iteration of a loop that combines two maps point-wise by `g`: it emits the piece
`(a, p, w)`, which ends by `b` and is right up to `b`, and goes on with inputs that agree with the
present ones beyond `b`. -/
theorem step_one {a p : Nat} {w : γ} (ha : lo ≤ a) (hp : a ≤ p) (hb : p ≤ b)
    (ih : WFFrom (b + 1) X ∧ ∀ c, lookup X c = g (lookup l1' c) (lookup l2' c))
    (a1 : Above b l1 l1') (a2 : Above b l2 l2')
    (hd : ∀ c, c ≤ b → lookup [(a, p, w)] c = g (lookup l1 c) (lookup l2 c)) :
    WFFrom lo ((a, p, w) :: X) ∧ ∀ c, lookup ((a, p, w) :: X) c = g (lookup l1 c) (lookup l2 c) := by
  refine ⟨⟨ha, hp, ih.1.mono (Nat.succ_le_succ hb)⟩, fun c => ?_⟩
  by_cases hc : c ≤ b
  · rw [← hd c hc, lookup, lookup, lookup_none_of_lt ih.1 (Nat.lt_succ_of_le hc)]; rfl
  · have hc := Nat.lt_of_not_le hc
    rw [lookup_gt_end (Nat.lt_of_le_of_lt hb hc), ih.2, a1 c hc, a2 c hc]

theorem step_skip {k : Nat} (hlo : lo ≤ k) (hb : b < k)
    (ih : WFFrom k X ∧ ∀ c, lookup X c = g (lookup l1' c) (lookup l2' c))
    (a1 : Above b l1 l1') (a2 : Above b l2 l2')
    (hd : ∀ c, c ≤ b → g (lookup l1 c) (lookup l2 c) = none) :
    WFFrom lo X ∧ ∀ c, lookup X c = g (lookup l1 c) (lookup l2 c) := by
  refine ⟨ih.1.mono hlo, fun c => ?_⟩
  by_cases hc : c ≤ b
  · rw [hd c hc, lookup_none_of_lt ih.1 (Nat.lt_of_le_of_lt hc hb)]
  · rw [ih.2, a1 c (Nat.lt_of_not_le hc), a2 c (Nat.lt_of_not_le hc)]

end Step

def mergeOpt (merge : α → α → α) (old : Option α) (inNew : Bool) (v : α) : Option α :=
  match old, inNew with
  | some x, true => some (merge x v)
  | some x, false => some x
  | none, true => some v
  | none, false => none

theorem mem_mergeOpt {β : Type} {merge : List β → List β → List β}
    (hm : ∀ x y b, b ∈ merge x y ↔ b ∈ x ∨ b ∈ y) (o : Option (List β)) (d : Bool) (v : List β) (b : β) :
    (∃ w, mergeOpt merge o d v = some w ∧ b ∈ w) ↔ (∃ w, o = some w ∧ b ∈ w) ∨ (d = true ∧ b ∈ v) := by
  cases o <;> cases d <;> simp [mergeOpt, hm]

theorem isSome_mergeOpt (merge : α → α → α) (o : Option α) (b : Bool) (v : α) :
    (mergeOpt merge o b v).isSome = (o.isSome || b) := by
  cases o <;> cases b <;> rfl

def mergeOpt2 (merge : α → α → α) : Option α → Option α → Option α
  | some x, some y => some (merge x y)
  | some x, none => some x
  | none, some y => some y
  | none, none => none

theorem isSome_mergeOpt2 (merge : α → α → α) (a b : Option α) :
    (mergeOpt2 merge a b).isSome = (a.isSome || b.isSome) := by
  cases a <;> cases b <;> rfl

theorem mergeOpt2_none_right (merge : α → α → α) (a : Option α) : mergeOpt2 merge a none = a := by
  cases a <;> rfl

theorem mergeOpt2_none_left (merge : α → α → α) (a : Option α) : mergeOpt2 merge none a = a := by
  cases a <;> rfl

theorem mergeOpt2_heads (merge : α → α → α) {s c : Nat} {v1 v2 : α} :
    mergeOpt2 merge (if s ≤ c then some v1 else none) (if s ≤ c then some v2 else none) =
      if s ≤ c then some (merge v1 v2) else none := by
  split <;> rfl

theorem mergeOpt_eq (merge : α → α → α) (o : Option α) (ns ne c : Nat) (v : α) :
    mergeOpt merge o (decide (ns ≤ c ∧ c ≤ ne)) v = mergeOpt2 merge o (lookup [(ns, ne, v)] c) := by
  rw [lookup]
  by_cases h : ns ≤ c ∧ c ≤ ne
  · rw [if_pos h, decide_eq_true h]; cases o <;> rfl
  · rw [if_neg h, decide_eq_false h]; cases o <;> rfl

theorem insertRanges_spec (merge : α → α → α) (l1 l2 : RangeMap α) (lo : Nat)
    (h1 : WFFrom lo l1) (h2 : WFFrom lo l2) :
    WFFrom lo (insertRanges merge l1 l2) ∧
    ∀ c, lookup (insertRanges merge l1 l2) c = mergeOpt2 merge (lookup l1 c) (lookup l2 c) := by
  fun_induction insertRanges merge l1 l2 generalizing lo
  case case1 => exact ⟨trivial, fun c => rfl⟩
  case case2 r1 rest1 => exact ⟨h1, fun c => (mergeOpt2_none_right _ _).symm⟩
  case case3 r2 rest2 => exact ⟨h2, fun c => (mergeOpt2_none_left _ _).symm⟩
  case case4 s1 e1 v1 rest1 s2 e2 v2 rest2 hA ih =>
    have w2 : WFFrom (e1 + 1) ((s2, e2, v2) :: rest2) := ⟨hA, h2.2⟩
    refine step_one h1.1 h1.2.1 (Nat.le_refl e1) (ih (e1 + 1) h1.2.2 w2) .tail .refl
      fun c hc => ?_
    rw [lookup_none_of_lt w2 (Nat.lt_succ_of_le hc), mergeOpt2_none_right, lookup_head h1.2.2 hc]
  case case5 s1 e1 v1 rest1 s2 e2 v2 rest2 hA hB ih =>
    have w1 : WFFrom (e2 + 1) ((s1, e1, v1) :: rest1) := ⟨hB, h1.2⟩
    refine step_one h2.1 h2.2.1 (Nat.le_refl e2) (ih (e2 + 1) w1 h2.2.2) .refl .tail
      fun c hc => ?_
    rw [lookup_none_of_lt w1 (Nat.lt_succ_of_le hc), mergeOpt2_none_left, lookup_head h2.2.2 hc]
  case case6 s1 e1 v1 rest1 s2 e2 v2 rest2 hA hB os hC ih =>
    have hos : os = s2 := Nat.max_eq_right (Nat.le_of_lt hC)
    clear_value os; subst hos
    have hs : os - 1 + 1 = os := Nat.sub_add_cancel (Nat.zero_lt_of_lt hC)
    have he : os - 1 ≤ e1 := Nat.le_trans (Nat.sub_le os 1) (Nat.le_of_not_lt hA)
    have w2 : WFFrom (os - 1 + 1) ((os, e2, v2) :: rest2) := ⟨Nat.le_of_eq hs, h2.2⟩
    refine step_one h1.1 (Nat.le_sub_one_of_lt hC) (Nat.le_refl _)
      (ih (os - 1 + 1) ⟨Nat.le_of_eq hs, Nat.le_of_not_lt hA, h1.2.2⟩ w2)
      (.trim (Nat.le_of_lt hC) (Nat.le_of_eq hs.symm)) .refl fun c hc => ?_
    rw [lookup_none_of_lt w2 (Nat.lt_succ_of_le hc), mergeOpt2_none_right, lookup_le_end h1.2.2 (Nat.le_trans hc he),
      lookup_one hc]
  case case7 s1 e1 v1 rest1 s2 e2 v2 rest2 hA hB os hC hD ih =>
    have hos : os = s1 := Nat.max_eq_left (Nat.le_of_lt hD)
    clear_value os; subst hos
    have hs : os - 1 + 1 = os := Nat.sub_add_cancel (Nat.zero_lt_of_lt hD)
    have he : os - 1 ≤ e2 := Nat.le_trans (Nat.sub_le os 1) (Nat.le_of_not_lt hB)
    have w1 : WFFrom (os - 1 + 1) ((os, e1, v1) :: rest1) := ⟨Nat.le_of_eq hs, h1.2⟩
    refine step_one h2.1 (Nat.le_sub_one_of_lt hD) (Nat.le_refl _)
      (ih (os - 1 + 1) w1 ⟨Nat.le_of_eq hs, Nat.le_of_not_lt hB, h2.2.2⟩)
      .refl (.trim (Nat.le_of_lt hD) (Nat.le_of_eq hs.symm)) fun c hc => ?_
    rw [lookup_none_of_lt w1 (Nat.lt_succ_of_le hc), mergeOpt2_none_left, lookup_le_end h2.2.2 (Nat.le_trans hc he),
      lookup_one hc]
  case case8 s1 e1 v1 rest1 s2 e2 v2 rest2 hA hB os oe hC hD merged hE ih =>
    obtain rfl : s1 = s2 := Nat.le_antisymm (Nat.le_of_not_lt hD) (Nat.le_of_not_lt hC)
    have hoe : oe = e1 := Nat.min_eq_left (Nat.le_of_lt hE)
    have hm : merged = (s1, e1, merge v1 v2) := by rw [← hoe, ← Nat.max_self s1]
    clear_value merged oe; subst hm hoe
    refine step_one h1.1 h1.2.1 (Nat.le_refl oe) (ih (oe + 1) h1.2.2 ⟨Nat.le_refl _, hE, h2.2.2⟩)
      .tail (.trim (Nat.le_succ_of_le h1.2.1) (Nat.le_refl _)) fun c hc => ?_
    rw [lookup_le_end h1.2.2 hc, lookup_le_end h2.2.2 (Nat.le_trans hc (Nat.le_of_lt hE)), mergeOpt2_heads,
      lookup_one hc]
  case case9 s1 e1 v1 rest1 s2 e2 v2 rest2 hA hB os oe hC hD merged hE hF ih =>
    obtain rfl : s1 = s2 := Nat.le_antisymm (Nat.le_of_not_lt hD) (Nat.le_of_not_lt hC)
    have hoe : oe = e2 := Nat.min_eq_right (Nat.le_of_lt hF)
    have hm : merged = (s1, e2, merge v1 v2) := by rw [← hoe, ← Nat.max_self s1]
    clear_value merged oe; subst hm hoe
    refine step_one h1.1 h2.2.1 (Nat.le_refl oe) (ih (oe + 1) ⟨Nat.le_refl _, hF, h1.2.2⟩ h2.2.2)
      (.trim (Nat.le_succ_of_le h2.2.1) (Nat.le_refl _)) .tail fun c hc => ?_
    rw [lookup_le_end h1.2.2 (Nat.le_trans hc (Nat.le_of_lt hF)), lookup_le_end h2.2.2 hc, mergeOpt2_heads,
      lookup_one hc]
  case case10 s1 e1 v1 rest1 s2 e2 v2 rest2 hA hB os oe hC hD merged hE hF ih =>
    obtain rfl : s1 = s2 := Nat.le_antisymm (Nat.le_of_not_lt hD) (Nat.le_of_not_lt hC)
    obtain rfl : e1 = e2 := Nat.le_antisymm (Nat.le_of_not_lt hF) (Nat.le_of_not_lt hE)
    have hm : merged = (s1, e1, merge v1 v2) := by rw [← Nat.min_self e1, ← Nat.max_self s1]
    clear_value merged; subst hm
    refine step_one h1.1 h1.2.1 (Nat.le_refl e1) (ih (e1 + 1) h1.2.2 h2.2.2)
      .tail .tail fun c hc => ?_
    rw [lookup_le_end h1.2.2 hc, lookup_le_end h2.2.2 hc, mergeOpt2_heads, lookup_one hc]

section Equations
variable {merge : α → α → α} {s e ns ne : Nat} {x v : α} {rest : RangeMap α} {lastEnd : Option Nat}

theorem insertAux_nil (hlast : ∀ le, lastEnd = some le → le < ns) :
    insertAux merge [] lastEnd ns ne v = [(ns, ne, v)] := by
  unfold insertAux
  cases lastEnd with
  | none => rfl
  | some le => exact if_pos (decide_eq_true (hlast le rfl))

theorem mem_insertAux_nil {r : Nat × Nat × α} (hr : r ∈ insertAux merge [] lastEnd ns ne v) :
    r = (ns, ne, v) := by
  unfold insertAux at hr
  cases lastEnd with
  | none => exact List.mem_singleton.mp hr
  | some le =>
    dsimp only at hr
    split at hr
    · exact List.mem_singleton.mp hr
    · cases hr

theorem insertAux_cons_before (h : e < ns) :
    insertAux merge ((s, e, x) :: rest) lastEnd ns ne v = (s, e, x) :: insertAux merge rest (some e) ns ne v := by
  rw [insertAux, if_pos h]

theorem insertAux_cons_after (h1 : ns ≤ e) (h2 : ne < s) :
    insertAux merge ((s, e, x) :: rest) lastEnd ns ne v = (ns, ne, v) :: (s, e, x) :: rest := by
  rw [insertAux, if_neg (Nat.not_lt_of_le h1), if_pos h2]

/-- What `insertAux` emits for a head `(s, _, x)` that overlaps the new range, up to the end `oe` of
the overlap. -/
def overlapPieces (merge : α → α → α) (ns s oe : Nat) (x v : α) : RangeMap α :=
  (if ns < max ns s then [(ns, max ns s - 1, v)] else if s < max ns s then [(s, max ns s - 1, x)] else [])
    ++ [(max ns s, oe, merge x v)]

theorem insertAux_cons_overlap (h1 : ns ≤ e) (h2 : s ≤ ne) :
    insertAux merge ((s, e, x) :: rest) lastEnd ns ne v =
      overlapPieces merge ns s (min ne e) x v ++
        if ne < e then (ne + 1, e, x) :: rest
        else if e < ne then insertAux merge rest (some e) (e + 1) ne v else rest := by
  rw [insertAux, if_neg (Nat.not_lt_of_le h1), if_neg (Nat.not_lt_of_le h2)]
  by_cases h : ne < e
  · rw [if_pos h, Nat.min_eq_left (Nat.le_of_lt h), if_pos h]; rfl
  · rw [if_neg h, Nat.min_eq_right (Nat.le_of_not_lt h), if_neg (Nat.lt_irrefl e)]
    exact (apply_ite (overlapPieces merge ns s e x v ++ ·) _ _ _).symm

end Equations

theorem overlapPieces_eq (merge : α → α → α) (ns s oe : Nat) (x v : α) :
    (ns < s ∧ overlapPieces merge ns s oe x v = [(ns, s - 1, v), (s, oe, merge x v)]) ∨
    (s < ns ∧ overlapPieces merge ns s oe x v = [(s, ns - 1, x), (ns, oe, merge x v)]) ∨
    (ns = s ∧ overlapPieces merge ns s oe x v = [(s, oe, merge x v)]) := by
  unfold overlapPieces
  rcases Nat.lt_trichotomy ns s with h | rfl | h
  · rw [Nat.max_eq_right (Nat.le_of_lt h), if_pos h]
    exact .inl ⟨h, rfl⟩
  · rw [Nat.max_self, if_neg (Nat.lt_irrefl _), if_neg (Nat.lt_irrefl _)]
    exact .inr (.inr ⟨rfl, rfl⟩)
  · rw [Nat.max_eq_left (Nat.le_of_lt h), if_neg (Nat.lt_irrefl _), if_pos h]
    exact .inr (.inl ⟨h, rfl⟩)

section
variable {merge : α → α → α} {s1 e1 s2 e2 : Nat} {v1 v2 : α} {r1 r2 : RangeMap α}

theorem insertRanges_nil_right (l : RangeMap α) : insertRanges merge l [] = l := by
  cases l <;> rw [insertRanges]

theorem insertRanges_nil_left (l : RangeMap α) : insertRanges merge [] l = l := by
  cases l <;> rw [insertRanges]

theorem insertRanges_cons_before (h : e1 < s2) :
    insertRanges merge ((s1, e1, v1) :: r1) ((s2, e2, v2) :: r2) =
      (s1, e1, v1) :: insertRanges merge r1 ((s2, e2, v2) :: r2) := by
  rw [insertRanges, if_pos h]

theorem insertRanges_cons_after (h1 : s2 ≤ e1) (h2 : e2 < s1) :
    insertRanges merge ((s1, e1, v1) :: r1) ((s2, e2, v2) :: r2) =
      (s2, e2, v2) :: insertRanges merge ((s1, e1, v1) :: r1) r2 := by
  rw [insertRanges, if_neg (Nat.not_lt_of_le h1), if_pos h2]

theorem insertRanges_cons_aligned {s : Nat} (h1 : s ≤ e1) (h2 : s ≤ e2) :
    insertRanges merge ((s, e1, v1) :: r1) ((s, e2, v2) :: r2) =
      (s, min e2 e1, merge v1 v2) ::
        if e2 < e1 then insertRanges merge ((e2 + 1, e1, v1) :: r1) r2
        else if e1 < e2 then insertRanges merge r1 ((e1 + 1, e2, v2) :: r2)
        else insertRanges merge r1 r2 := by
  rw [insertRanges, if_neg (Nat.not_lt_of_le h1), if_neg (Nat.not_lt_of_le h2)]
  dsimp only
  rw [if_neg (Nat.lt_irrefl s), if_neg (Nat.lt_irrefl s), Nat.max_self, Nat.min_comm]
  rcases Nat.lt_trichotomy e2 e1 with h | rfl | h
  · rw [if_neg (Nat.lt_asymm h), if_pos h, if_pos h, Nat.min_eq_left (Nat.le_of_lt h)]
  · simp only [Nat.lt_irrefl, if_false]
  · rw [if_pos h, if_neg (Nat.lt_asymm h), if_pos h, Nat.min_eq_right (Nat.le_of_lt h)]

/-- Two iterations of `insertRanges` at overlapping heads emit what `insertAux` emits in one. -/
theorem insertRanges_cons_overlap (h1 : s2 ≤ e1) (h2 : s1 ≤ e2) (h3 : s1 ≤ e1) (h4 : s2 ≤ e2) :
    insertRanges merge ((s1, e1, v1) :: r1) ((s2, e2, v2) :: r2) =
      overlapPieces merge s2 s1 (min e2 e1) v1 v2 ++
        if e2 < e1 then insertRanges merge ((e2 + 1, e1, v1) :: r1) r2
        else if e1 < e2 then insertRanges merge r1 ((e1 + 1, e2, v2) :: r2)
        else insertRanges merge r1 r2 := by
  rcases overlapPieces_eq merge s2 s1 (min e2 e1) v1 v2 with ⟨h, hP⟩ | ⟨h, hP⟩ | ⟨rfl, hP⟩
  · rw [hP, insertRanges, if_neg (Nat.not_lt_of_le h1), if_neg (Nat.not_lt_of_le h2)]
    dsimp only
    rw [if_neg (Nat.lt_asymm h), if_pos h, Nat.max_eq_left (Nat.le_of_lt h), insertRanges_cons_aligned h3 h2]; rfl
  · rw [hP, insertRanges, if_neg (Nat.not_lt_of_le h1), if_neg (Nat.not_lt_of_le h2)]
    dsimp only
    rw [if_pos h, Nat.max_eq_right (Nat.le_of_lt h), insertRanges_cons_aligned h1 h4]; rfl
  · rw [hP, insertRanges_cons_aligned h3 h4]; rfl

end

theorem insertAux_eq_insertRanges {merge : α → α → α} {l : RangeMap α} {lastEnd : Option Nat} {ns ne lo : Nat} {v : α}
    (hwf : WFFrom lo l) (hne : ns ≤ ne) (hlast : ∀ le, lastEnd = some le → le < ns) :
    insertAux merge l lastEnd ns ne v = insertRanges merge l [(ns, ne, v)] := by
  induction l generalizing lastEnd ns lo with
  | nil => rw [insertAux_nil hlast, insertRanges]
  | cons r rest ih =>
    obtain ⟨s, e, x⟩ := r
    obtain ⟨-, h2, h3⟩ := hwf
    rcases Nat.lt_or_ge e ns with hA | hA
    · rw [insertAux_cons_before hA, insertRanges_cons_before hA, ih h3 hne fun le hle => Option.some.inj hle ▸ hA]
    · rcases Nat.lt_or_ge ne s with hB | hB
      · rw [insertAux_cons_after hA hB, insertRanges_cons_after hA hB, insertRanges_nil_right]
      · rw [insertAux_cons_overlap hA hB, insertRanges_cons_overlap hA hB h2 hne]
        congr 1
        rcases Nat.lt_trichotomy ne e with h | rfl | h
        · rw [if_pos h, if_pos h, insertRanges_nil_right]
        · simp only [Nat.lt_irrefl, if_false, insertRanges_nil_right]
        · rw [if_neg (Nat.lt_asymm h), if_pos h, if_neg (Nat.lt_asymm h), if_pos h]
          exact ih h3 h fun le hle => Option.some.inj hle ▸ Nat.lt_succ_self e

def WF (l : RangeMap α) : Prop := WFFrom 0 l

theorem insert_spec (merge : α → α → α) (l : RangeMap α) (ns ne : Nat) (v : α) (hwf : WF l) (hne : ns ≤ ne) :
    WF (insert merge l ns ne v) ∧
    ∀ c, lookup (insert merge l ns ne v) c = mergeOpt merge (lookup l c) (decide (ns ≤ c ∧ c ≤ ne)) v := by
  have ⟨w, lk⟩ := insertRanges_spec merge l [(ns, ne, v)] 0 hwf ⟨Nat.zero_le _, hne, trivial⟩
  rw [insert, insertAux_eq_insertRanges (lastEnd := none) hwf hne nofun]
  exact ⟨w, fun c => (lk c).trans (mergeOpt_eq merge _ ns ne c v).symm⟩

/-- `y` is an end point (a start, or an end plus one) of the new range or of a range of `l`. -/
def Cut (ns ne : Nat) (l : RangeMap α) (y : Nat) : Prop :=
  y = ns ∨ y = ne + 1 ∨ ∃ q ∈ l, y = q.1 ∨ y = q.2.1 + 1

/-- `r` carries the new value, an old one, or an old one merged with the new, between two cuts. -/
def Emitted (merge : α → α → α) (ns ne : Nat) (v : α) (l : RangeMap α) (r : Nat × Nat × α) : Prop :=
  (r.2.2 = v ∨ ∃ q ∈ l, r.2.2 = q.2.2 ∨ r.2.2 = merge q.2.2 v) ∧ Cut ns ne l r.1 ∧ Cut ns ne l (r.2.1 + 1)

section Emitted
variable {merge : α → α → α} {ns ne s e : Nat} {v x : α} {rest : RangeMap α} {r : Nat × Nat × α}

theorem Cut.head {y : Nat} (h : y = ns ∨ y = ne + 1 ∨ y = s ∨ y = e + 1) : Cut ns ne ((s, e, x) :: rest) y :=
  h.imp_right fun h => h.imp_right fun h => ⟨_, List.mem_cons_self, h⟩

theorem Cut.tail {ns' y : Nat} (hn : ns' = ns ∨ ns' = e + 1) (h : Cut ns' ne rest y) :
    Cut ns ne ((s, e, x) :: rest) y := by
  rcases h with rfl | h | ⟨q, hq, h⟩
  · exact hn.elim Or.inl fun h => .head (.inr (.inr (.inr h)))
  · exact .inr (.inl h)
  · exact .inr (.inr ⟨q, List.mem_cons_of_mem _ hq, h⟩)

theorem Emitted.old {l : RangeMap α} (hr : r ∈ l) : Emitted merge ns ne v l r :=
  ⟨.inr ⟨r, hr, .inl rfl⟩, .inr (.inr ⟨r, hr, .inl rfl⟩), .inr (.inr ⟨r, hr, .inr rfl⟩)⟩

theorem Emitted.head (hv : r.2.2 = v ∨ r.2.2 = x ∨ r.2.2 = merge x v)
    (h1 : r.1 = ns ∨ r.1 = ne + 1 ∨ r.1 = s ∨ r.1 = e + 1)
    (h2 : r.2.1 + 1 = ns ∨ r.2.1 + 1 = ne + 1 ∨ r.2.1 + 1 = s ∨ r.2.1 + 1 = e + 1) :
    Emitted merge ns ne v ((s, e, x) :: rest) r :=
  ⟨hv.imp_right fun h => ⟨_, List.mem_cons_self, h⟩, .head h1, .head h2⟩

theorem Emitted.tail {ns' : Nat} (hn : ns' = ns ∨ ns' = e + 1) (h : Emitted merge ns' ne v rest r) :
    Emitted merge ns ne v ((s, e, x) :: rest) r :=
  ⟨h.1.imp_right fun ⟨q, hq, h⟩ => ⟨q, List.mem_cons_of_mem _ hq, h⟩, .tail hn h.2.1, .tail hn h.2.2⟩

theorem mem_overlapPieces {oe : Nat} (hoe : oe = ne ∨ oe = e) (hr : r ∈ overlapPieces merge ns s oe x v) :
    Emitted merge ns ne v ((s, e, x) :: rest) r := by
  have hend : oe + 1 = ns ∨ oe + 1 = ne + 1 ∨ oe + 1 = s ∨ oe + 1 = e + 1 :=
    .inr (hoe.elim (fun h => .inl (h ▸ rfl)) fun h => .inr (.inr (h ▸ rfl)))
  rcases overlapPieces_eq merge ns s oe x v with ⟨h, hP⟩ | ⟨h, hP⟩ | ⟨rfl, hP⟩ <;> rw [hP] at hr
  · rcases List.mem_cons.mp hr with rfl | hr
    · exact .head (.inl rfl) (.inl rfl) (.inr (.inr (.inl (Nat.sub_add_cancel (Nat.zero_lt_of_lt h)))))
    · cases List.mem_singleton.mp hr
      exact .head (.inr (.inr rfl)) (.inr (.inr (.inl rfl))) hend
  · rcases List.mem_cons.mp hr with rfl | hr
    · exact .head (.inr (.inl rfl)) (.inr (.inr (.inl rfl))) (.inl (Nat.sub_add_cancel (Nat.zero_lt_of_lt h)))
    · cases List.mem_singleton.mp hr
      exact .head (.inr (.inr rfl)) (.inl rfl) hend
  · cases List.mem_singleton.mp hr
    exact .head (.inr (.inr rfl)) (.inl rfl) hend

end Emitted

theorem mem_insertAux {merge : α → α → α} {l : RangeMap α} {lastEnd : Option Nat} {ns ne : Nat} {v : α}
    {r : Nat × Nat × α} (hr : r ∈ insertAux merge l lastEnd ns ne v) : Emitted merge ns ne v l r := by
  induction l generalizing lastEnd ns with
  | nil =>
    cases mem_insertAux_nil hr
    exact ⟨.inl rfl, .inl rfl, .inr (.inl rfl)⟩
  | cons q rest ih =>
    obtain ⟨s, e, x⟩ := q
    rcases Nat.lt_or_ge e ns with hA | hA
    · rw [insertAux_cons_before hA] at hr
      rcases List.mem_cons.mp hr with rfl | hr
      · exact .old List.mem_cons_self
      · exact .tail (.inl rfl) (ih hr)
    · rcases Nat.lt_or_ge ne s with hB | hB
      · rw [insertAux_cons_after hA hB] at hr
        rcases List.mem_cons.mp hr with rfl | hr
        · exact .head (.inl rfl) (.inl rfl) (.inr (.inl rfl))
        · exact .old hr
      · rw [insertAux_cons_overlap hA hB] at hr
        rcases List.mem_append.mp hr with hr | hr
        · exact mem_overlapPieces ((Nat.le_total ne e).imp Nat.min_eq_left Nat.min_eq_right) hr
        · split at hr
          · rcases List.mem_cons.mp hr with rfl | hr
            · exact .head (.inr (.inl rfl)) (.inr (.inl rfl)) (.inr (.inr (.inr rfl)))
            · exact .old (List.mem_cons_of_mem _ hr)
          · split at hr
            · exact .tail (.inr rfl) (ih hr)
            · exact .old (List.mem_cons_of_mem _ hr)

end Lexgen.RangeMap
