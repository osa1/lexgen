import LexgenModel.Proofs.ThompsonPaths
/-!
# Thompson construction: gadgets

`Gadget n n' cur cont L`: `n'` extends `n` by a sub-automaton hanging between the (previously
transition-less) states `cur` and `cont` that reads exactly the words of `L`.
-/

namespace Lexgen
namespace Thompson

variable {n n' n1 n2 n3 n4 n5 m m' : NFA} {cur cont : Nat} {L La Lb : List Sym → Prop} {E : Rel}

/-- `n'` extends `n`; among the states of `n` only `cur` changed; accept fields are untouched;
new edges only enter `cont` or fresh states -/
structure Frame (n n' : NFA) (cur cont : Nat) : Prop where
  len : n.length ≤ n'.length
  old : ∀ a, a < n.length → a ≠ cur → n'.st a = n.st a
  accs : ∀ a, (n'.st a).acc = (n.st a).acc
  wf : NFAWF n'
  tgt : ∀ a x b, Edge n' a x b → Edge n a x b ∨ b = cont ∨ n.length ≤ b
  tne : TargetsNonempty n → TargetsNonempty n'

theorem edge_newState (n : NFA) (a : Nat) (x : Option Sym) (b : Nat) :
    Edge n.newState.1 a x b ↔ Edge n a x b := by
  unfold Edge; rw [st_newState]

theorem wf_newState (h : NFAWF n) : NFAWF n.newState.1 := by
  have hl := length_newState n
  refine wf_of_edges (hl ▸ Nat.succ_pos _) (fun s _ => ?_) (fun s _ => ?_) (fun a x b hab => ?_)
  · rw [st_newState]; exact Subset.ranges_wf_all h s
  · rw [st_newState]; exact Subset.charsNodup_all h s
  · exact hl ▸ Nat.lt_succ_of_lt (edge_target_lt h ((edge_newState n a x b).mp hab))

theorem Frame.newState (h : NFAWF n) (cur cont : Nat) : Frame n n.newState.1 cur cont := by
  refine ⟨length_newState n ▸ Nat.le_succ _, fun a _ _ => st_newState n a, fun a => by rw [st_newState],
    wf_newState h, fun a x b hab => Or.inl ((edge_newState n a x b).mp hab),
    fun hne s _ => by rw [st_newState]; exact tne_all hne s⟩

theorem Frame.ofStep {s t : Nat} {X : Option Sym → Prop} (h : Step n n' s X t)
    (hwf : NFAWF n) (ht : t < n.length) : Frame n n' s t := by
  refine ⟨Nat.le_of_eq h.len.symm, fun a _ ha => h.other a ha, h.accAll, h.wf hwf ht, ?_, h.tneAll⟩
  exact fun a x b hab => ((h.edges a x b).mp hab).imp_right fun h1 => Or.inl h1.2.2

theorem Frame.refl (h : NFAWF n) (cur cont : Nat) : Frame n n cur cont :=
  ⟨Nat.le_refl _, fun _ _ _ => rfl, fun _ => rfl, h, fun _ _ _ h => Or.inl h, id⟩

theorem Frame.trans {c1 k1 c2 k2 : Nat}
    (f1 : Frame n n1 c1 k1) (f2 : Frame n1 n2 c2 k2)
    (hc1 : c1 = cur ∨ n.length ≤ c1) (hc2 : c2 = cur ∨ n.length ≤ c2)
    (hk1 : k1 = cont ∨ n.length ≤ k1) (hk2 : k2 = cont ∨ n.length ≤ k2) :
    Frame n n2 cur cont := by
  refine ⟨Nat.le_trans f1.len f2.len, ?_, fun a => by rw [f2.accs, f1.accs], f2.wf, ?_, fun h => f2.tne (f1.tne h)⟩
  · intro a ha hne
    rw [f2.old a (Nat.lt_of_lt_of_le ha f1.len) (ne_of_eq_or_le ha hne hc2), f1.old a ha (ne_of_eq_or_le ha hne hc1)]
  · intro a x b hab
    rcases f2.tgt a x b hab with h | h
    · exact (f1.tgt a x b h).imp_right (tgt_of_eq_or_le hk1 (Nat.le_refl _))
    · exact Or.inr (tgt_of_eq_or_le hk2 f1.len h)

theorem virgin_ge {a : Nat} (h : n.length ≤ a) : NFA.virgin n a := by
  unfold NFA.virgin; rw [Subset.st_eq_empty_of_le (n := n) h]; exact ⟨rfl, rfl, rfl, rfl, rfl⟩

theorem virgin_of_st_eq {a : Nat} (h : n'.st a = n.st a) (hv : NFA.virgin n a) : NFA.virgin n' a := by
  unfold NFA.virgin; rw [h]; exact hv

theorem Frame.virgin {c k a : Nat} (f : Frame n n' c k) (ha : a < n.length) (hne : a ≠ c)
    (hv : NFA.virgin n a) : NFA.virgin n' a :=
  virgin_of_st_eq (f.old a ha hne) hv

theorem dead_of_virgin {a : Nat} (hv : NFA.virgin n a) : Dead (Edge n) a :=
  fun x b => edge_virgin hv x b

theorem path_end (hwf : NFAWF n) {p q : Nat} {w : List Sym} (h : Path (Edge n) p w q) :
    q = p ∨ q < n.length := by
  induction h with
  | refl s => exact Or.inl rfl
  | step h _ ih =>
    rcases ih with rfl | ih
    · exact Or.inr (edge_target_lt hwf h)
    · exact Or.inr ih

structure Pre (n : NFA) (cur cont : Nat) : Prop where
  wf : NFAWF n
  hcur : cur < n.length
  hcont : cont < n.length
  hne : cur ≠ cont
  vcur : NFA.virgin n cur
  vcont : NFA.virgin n cont

/-- What one call `addRe re cur cont` achieves (`addRe_gadget`, with `L = den re`): `frame` says what
it may touch; `paths` that, seen from the states of `n`, a path from `cur` is empty or ends in `cont`
having read a word of `L`. Gadgets compose by `Gadget.paths_old`, which extends `paths` to paths
between any two states of `n`. -/
structure Gadget (n n' : NFA) (cur cont : Nat) (L : List Sym → Prop) : Prop where
  frame : Frame n n' cur cont
  paths : ∀ w q, q < n.length → (Path (Edge n') cur w q ↔ (w = [] ∧ q = cur) ∨ (q = cont ∧ L w))

theorem Gadget.congrL {L' : List Sym → Prop} (g : Gadget n n' cur cont L)
    (h : ∀ w, L w ↔ L' w) : Gadget n n' cur cont L' :=
  ⟨g.frame, fun w q hq => by rw [g.paths w q hq, h]⟩

theorem Frame.mono (f : Frame n n' cur cont) (hv : NFA.virgin n cur)
    (a : Nat) (x : Option Sym) (b : Nat) (h : Edge n a x b) : Edge n' a x b := by
  have ha := edge_lt h
  have hne : a ≠ cur := by rintro rfl; exact edge_virgin hv x b h
  unfold Edge; rw [f.old a ha hne]; exact h

theorem Frame.edge_old (f : Frame n n' cur cont) {a : Nat} (ha : a < n.length)
    (hne : a ≠ cur) (x : Option Sym) (b : Nat) : Edge n' a x b ↔ Edge n a x b := by
  unfold Edge; rw [f.old a ha hne]

theorem Gadget.paths_old (g : Gadget n n' cur cont L)
    (hp : Pre n cur cont) (p q : Nat) (w : List Sym) (hpl : p < n.length) (hq : q < n.length) :
    Path (Edge n') p w q ↔
      Path (Edge n) p w q ∨ (q = cont ∧ ∃ w0 u, w = w0 ++ u ∧ Path (Edge n) p w0 cur ∧ L u) := by
  constructor
  · intro h
    induction h with
    | refl s => exact Or.inl (Path.refl s)
    | @step a b c x w h hpath ih =>
      by_cases hac : a = cur
      · subst hac
        rcases (g.paths _ c hq).mp (Path.step h hpath) with ⟨h1, h2⟩ | ⟨h1, h2⟩
        · rw [h1, h2]; exact Or.inl (Path.refl _)
        · exact Or.inr ⟨h1, [], _, rfl, Path.refl _, h2⟩
      · have hold := (g.frame.edge_old hpl hac x b).mp h
        have hb := edge_target_lt hp.wf hold
        rcases ih hb hq with ih | ⟨h1, w0, u, rfl, h0, hu⟩
        · exact Or.inl (Path.step hold ih)
        · exact Or.inr ⟨h1, lbl x ++ w0, u, by simp only [List.append_assoc], Path.step hold h0, hu⟩
  · rintro (h | ⟨rfl, w0, u, rfl, h0, hu⟩)
    · exact Path.mono (g.frame.mono hp.vcur) h
    · exact Path.trans (Path.mono (g.frame.mono hp.vcur) h0)
        ((g.paths u _ hq).mpr (Or.inr ⟨rfl, hu⟩))

theorem Gadget.paths_in {s N : Nat} (g : Gadget m n' s cont L)
    (hN : N ≤ s) (hm : N ≤ m.length) (w : List Sym) (q : Nat) (hq : q < N) :
    Path (Edge n') s w q ↔ q = cont ∧ L w := by
  rw [g.paths w q (Nat.lt_of_lt_of_le hq hm)]
  exact or_iff_right fun h => Nat.ne_of_lt (Nat.lt_of_lt_of_le hq hN) h.2

theorem Gadget.empty (hp : Pre n cur cont) (L : List Sym → Prop) (hL : ∀ w, ¬ L w) :
    Gadget n n cur cont L := by
  refine ⟨Frame.refl hp.wf _ _, fun w q _ => ?_⟩
  rw [path_dead_iff (dead_of_virgin hp.vcur)]
  exact (or_iff_left fun h => hL w h.2).symm

theorem Step.gadget {n n' : NFA} {cur cont : Nat} {X : Option Sym → Prop} (hp : Pre n cur cont)
    (h : Step n n' cur X cont) (hX : ¬ X none) :
    Gadget n n' cur cont (fun w => ∃ y, w = [y] ∧ X (some y)) := by
  have f := Frame.ofStep h hp.wf hp.hcont
  refine ⟨f, fun w q _ => ?_⟩
  have hdc : Dead (Edge n') cont := dead_of_virgin (f.virgin hp.hcont (Ne.symm hp.hne) hp.vcont)
  constructor
  · intro hpath
    cases hpath with
    | refl => exact Or.inl ⟨rfl, rfl⟩
    | @step _ b _ x w' he hrest =>
      rcases (h.edges cur x b).mp he with h1 | ⟨_, hx, rfl⟩
      · exact absurd h1 (edge_virgin hp.vcur x b)
      · obtain ⟨rfl, rfl⟩ := path_dead hdc hrest
        cases x with
        | none => exact absurd hx hX
        | some y => exact Or.inr ⟨rfl, y, rfl, hx⟩
  · rintro (⟨rfl, rfl⟩ | ⟨rfl, y, rfl, hx⟩)
    · exact Path.refl _
    · exact Path.sym ((h.edges cur (some y) q).mpr (Or.inr ⟨rfl, hx, rfl⟩)) (Path.refl _)


theorem Frame.addState (f : Frame n m cur cont) : Frame n m.newState.1 cur cont :=
  Frame.trans f (Frame.newState f.wf cur cont) (Or.inl rfl) (Or.inl rfl) (Or.inl rfl) (Or.inl rfl)

theorem Frame.addFrame {c k : Nat} (f : Frame n m cur cont)
    (g : Frame m m' c k) (hc : c = cur ∨ n.length ≤ c) (hk : k = cont ∨ n.length ≤ k) :
    Frame n m' cur cont :=
  Frame.trans f g (Or.inl rfl) hc (Or.inl rfl) hk

theorem Frame.addEdge {s t : Nat} (f : Frame n m cur cont)
    (h : m.addEmptyTransition s t = .ok m') (hs : s < m.length) (ht : t < m.length)
    (hc : s = cur ∨ n.length ≤ s) (hk : t = cont ∨ n.length ≤ t) :
    Frame n m' cur cont ∧ m'.length = m.length ∧ Edge m' = addEps (Edge m) s t := by
  have st := step_addEps h hs
  exact ⟨Frame.trans f (Frame.ofStep st f.wf ht) (Or.inl rfl) hc (Or.inl rfl) hk, st.len,
    funext fun a => funext fun x => funext fun b => propext (st.edges a x b)⟩

theorem Frame.addEdge2 {m1 m2 : NFA} {s t1 t2 : Nat} (f : Frame n m cur cont)
    (h1 : m.addEmptyTransition s t1 = .ok m1) (h2 : m1.addEmptyTransition s t2 = .ok m2)
    (hs : s < m.length) (ht1 : t1 < m.length) (ht2 : t2 < m.length) (hc : s = cur ∨ n.length ≤ s)
    (hk1 : t1 = cont ∨ n.length ≤ t1) (hk2 : t2 = cont ∨ n.length ≤ t2) :
    Frame n m2 cur cont ∧ m2.length = m.length ∧ Edge m2 = addEps (addEps (Edge m) s t1) s t2 := by
  obtain ⟨f1, l1, e1⟩ := f.addEdge h1 hs ht1 hc hk1
  obtain ⟨f2, l2, e2⟩ := f1.addEdge h2 (l1 ▸ hs) (l1 ▸ ht2) hc hk2
  exact ⟨f2, l2.trans l1, by rw [e2, e1]⟩

theorem virgin_newState {a : Nat} (h : NFA.virgin n a) : NFA.virgin n.newState.1 a :=
  virgin_of_st_eq (st_newState n a) h

theorem dead_addEps {a s t : Nat} (hd : Dead E a) (hne : a ≠ s) : Dead (addEps E s t) a :=
  fun x b h => h.elim (hd x b) fun h => hne h.1

theorem Pre.fresh {c k : Nat} (hp : Pre n cur cont) (hc : c = cur ∨ c = n.length)
    (hk : k = cont ∨ k = n.length) (hne : c ≠ k) : Pre n.newState.1 c k := by
  have hlt : ∀ {a b}, a = b ∨ a = n.length → b < n.length → a < n.newState.1.length := fun h hb =>
    length_newState n ▸ h.elim (· ▸ Nat.lt_succ_of_lt hb) (· ▸ Nat.lt_succ_self _)
  have hv : ∀ a, a = cur ∨ a = cont ∨ a = n.length → NFA.virgin n.newState.1 a := by
    rintro a (rfl | rfl | rfl)
    · exact virgin_newState hp.vcur
    · exact virgin_newState hp.vcont
    · exact virgin_newState (virgin_ge (Nat.le_refl _))
  exact ⟨wf_newState hp.wf, hlt hc hp.hcur, hlt hk hp.hcont, hne, hv c (hc.imp_right Or.inr), hv k (Or.inr hk)⟩

theorem Pre.freshCont (hp : Pre n cur cont) : Pre n.newState.1 cur n.length :=
  hp.fresh (Or.inl rfl) (Or.inr rfl) (Nat.ne_of_lt hp.hcur)

theorem Pre.freshCur (hp : Pre n cur cont) : Pre n.newState.1 n.length cont :=
  hp.fresh (Or.inr rfl) (Or.inl rfl) (Nat.ne_of_gt hp.hcont)

theorem Pre.freshCur2 (hp : Pre n cur cont) :
    Pre n.newState.1.newState.1 n.length cont :=
  hp.freshCur.fresh (Or.inl rfl) (Or.inl rfl) (Nat.ne_of_gt hp.hcont)

theorem Pre.fresh2 (hp : Pre n cur cont) :
    Pre n.newState.1.newState.1 n.length (n.length + 1) :=
  hp.freshCur.fresh (Or.inl rfl) (Or.inr (length_newState n).symm) (Nat.ne_of_lt (Nat.lt_succ_self _))

theorem Pre.after {c k : Nat}
    (g : Gadget n n' c k L) (hcur : cur < n.length) (hcont : cont < n.length) (hne : cur ≠ cont)
    (h1 : cur ≠ c) (h2 : cont ≠ c) (v1 : NFA.virgin n cur) (v2 : NFA.virgin n cont) : Pre n' cur cont :=
  ⟨g.frame.wf, Nat.lt_of_lt_of_le hcur g.frame.len, Nat.lt_of_lt_of_le hcont g.frame.len, hne,
    g.frame.virgin hcur h1 v1, g.frame.virgin hcont h2 v2⟩

theorem fresh_bounds {N M : Nat} (hc : cur < N) (hk : cont < N) (hM : N + 1 ≤ M) :
    cur < M ∧ cont < M ∧ N < M ∧ cur ≠ N ∧ cont ≠ N := by
  omega

theorem fresh_bounds2 {N M : Nat} (hc : cur < N) (hk : cont < N) (hM : N + 2 ≤ M) :
    cur < M ∧ cont < M ∧ N < M ∧ N + 1 < M ∧ cur ≠ N + 1 ∧ cont ≠ N + 1 := by
  omega

theorem pre_cat_b (hp : Pre n cur cont)
    (ga : Gadget n.newState.1 n1 cur n.length La) : Pre n1 n.length cont := by
  have pa := hp.freshCont
  obtain ⟨_, bk, _, cN, kN⟩ := fresh_bounds hp.hcur hp.hcont (Nat.le_of_eq (length_newState n).symm)
  exact Pre.after ga pa.hcont bk kN.symm cN.symm (Ne.symm hp.hne) pa.vcont (virgin_newState hp.vcont)

theorem gadget_cat (hp : Pre n cur cont)
    (ga : Gadget n.newState.1 n1 cur n.length La) (gb : Gadget n1 n2 n.length cont Lb) :
    Gadget n n2 cur cont (fun w => ∃ u v, w = u ++ v ∧ La u ∧ Lb v) := by
  have hl := length_newState n
  obtain ⟨_, _, bN, cN, _⟩ := fresh_bounds hp.hcur hp.hcont (Nat.le_of_eq hl.symm)
  obtain ⟨bc1, _, _, _, _⟩ := fresh_bounds hp.hcur hp.hcont (hl ▸ ga.frame.len)
  have pb := pre_cat_b hp ga
  have f : Frame n n2 cur cont :=
    (((Frame.refl hp.wf cur cont).addState).addFrame ga.frame (Or.inl rfl) (Or.inr (Nat.le_refl _))).addFrame
      gb.frame (Or.inr (Nat.le_refl _)) (Or.inl rfl)
  refine ⟨f, fun w q hq => ?_⟩
  have hq' := Nat.lt_trans hq bN
  rw [gb.paths_old pb cur q w bc1 (Nat.lt_of_lt_of_le hq' ga.frame.len), ga.paths w q hq']
  constructor
  · rintro ((h | ⟨h, _⟩) | ⟨hqc, w0, u, rfl, h0, hu⟩)
    · exact Or.inl h
    · exact absurd h (Nat.ne_of_lt hq)
    · rcases (ga.paths w0 n.length bN).mp h0 with ⟨_, h⟩ | ⟨_, h⟩
      · exact absurd h.symm cN
      · exact Or.inr ⟨hqc, w0, u, rfl, h, hu⟩
  · rintro (h | ⟨hqc, u, v, rfl, hu, hv⟩)
    · exact Or.inl (Or.inl h)
    · exact Or.inr ⟨hqc, u, v, rfl, (ga.paths u n.length bN).mpr (Or.inr ⟨rfl, hu⟩), hv⟩

theorem path_enter {N s : Nat} (hd : Dead E cur) (hne : cur ≠ cont)
    (hc : cur < N) (h : ∀ w q, q < N → (Path E s w q ↔ q = cont ∧ L w)) (w : List Sym) (q : Nat) (hq : q < N) :
    Path (addEps E cur s) cur w q ↔ (w = [] ∧ q = cur) ∨ (q = cont ∧ L w) := by
  rw [path_addEps_srcDead E cur s w q hd (fun u hu => hne ((h u cur hc).mp hu).1), h w q hq]

theorem path_skip {N : Nat} (hc : cur < N) (hne : cur ≠ cont)
    (hd : Dead E cont) (h : ∀ w q, q < N → (Path E cur w q ↔ (w = [] ∧ q = cur) ∨ (q = cont ∧ L w)))
    (w : List Sym) (q : Nat) (hq : q < N) :
    Path (addEps E cur cont) cur w q ↔ (w = [] ∧ q = cur) ∨ (q = cont ∧ (w = [] ∨ L w)) := by
  rw [path_addEps_tgtDead E cur cont cur w q hd hne, h w q hq, h w cur hc]
  simp only [hne, and_true, false_and, or_false, and_or_left, or_assoc, or_comm (a := q = cont ∧ L w)]

theorem path_branch {N s : Nat} {L' : List Sym → Prop} (hc : cur < N) (hne : cur ≠ cont)
    (h : ∀ w q, q < N → (Path E cur w q ↔ (w = [] ∧ q = cur) ∨ (q = cont ∧ L w)))
    (hs : ∀ w q, q < N → (Path E s w q ↔ q = cont ∧ L' w)) (w : List Sym) (q : Nat) (hq : q < N) :
    Path (addEps E cur s) cur w q ↔ (w = [] ∧ q = cur) ∨ (q = cont ∧ (L w ∨ L' w)) := by
  rw [path_addEps_noloop E cur s cur w q fun u hu => hne ((hs u cur hc).mp hu).1, h w q hq, and_or_left,
    ← or_assoc]
  refine or_congr_right ⟨?_, fun hw => ⟨[], w, rfl, Path.refl _, (hs w q hq).mpr hw⟩⟩
  rintro ⟨w0, w1, rfl, h0, h1⟩
  rcases (h w0 cur hc).mp h0 with ⟨rfl, _⟩ | ⟨e, _⟩
  · exact (hs _ q hq).mp h1
  · exact absurd e hne

theorem pre_alt_b (hp : Pre n cur cont)
    (ga : Gadget n.newState.1.newState.1 n1 n.length cont La) : Pre n1 (n.length + 1) cont := by
  have pa := hp.freshCur2
  obtain ⟨_, _, _, bN', _, kN'⟩ := fresh_bounds2 hp.hcur hp.hcont (Nat.le_of_eq (length_newState2 n).symm)
  exact Pre.after ga bN' pa.hcont kN'.symm (Nat.succ_ne_self _) pa.hne.symm
    (virgin_newState (virgin_newState (virgin_ge (Nat.le_succ _)))) pa.vcont

theorem gadget_alt (hp : Pre n cur cont)
    (ga : Gadget n.newState.1.newState.1 n1 n.length cont La)
    (gb : Gadget n1 n2 (n.length + 1) cont Lb)
    (h3 : n2.addEmptyTransition cur n.length = .ok n3)
    (h4 : n3.addEmptyTransition cur (n.length + 1) = .ok n4) :
    Gadget n n4 cur cont (fun w => La w ∨ Lb w) := by
  have hL := length_newState2 n
  have hne := hp.hne
  have hc := hp.hcur
  have hl1 := ga.frame.len
  have pb := pre_alt_b hp ga
  obtain ⟨bc, _, bN, bN', cN', kN'⟩ := fresh_bounds2 hc hp.hcont (Nat.le_of_eq hL.symm)
  obtain ⟨bc2, _, bN2, bN2', _, _⟩ := fresh_bounds2 hc hp.hcont (hL ▸ Nat.le_trans hl1 gb.frame.len)
  have f2 : Frame n n2 cur cont :=
    ((((Frame.refl hp.wf cur cont).addState).addState).addFrame ga.frame (Or.inr (Nat.le_refl _))
      (Or.inl rfl)).addFrame gb.frame (Or.inr (Nat.le_succ _)) (Or.inl rfl)
  obtain ⟨f4, -, hE⟩ := f2.addEdge2 h3 h4 bc2 bN2 bN2' (Or.inl rfl) (Or.inr (Nat.le_refl _)) (Or.inr (Nat.le_succ _))
  refine ⟨f4, fun w q hq => ?_⟩
  have vcur2 : NFA.virgin n2 cur :=
    gb.frame.virgin (Nat.lt_of_lt_of_le bc hl1) cN' (ga.frame.virgin bc (Nat.ne_of_lt hc)
      (virgin_newState (virgin_newState hp.vcur)))
  have A2 : ∀ w q, q < n.length → (Path (Edge n2) n.length w q ↔ q = cont ∧ La w) := by
    intro w q hq
    rw [gb.paths_old pb n.length q w (Nat.lt_of_lt_of_le bN hl1) (Nat.lt_of_lt_of_le (Nat.lt_trans hq bN) hl1),
      ga.paths_in (Nat.le_refl _) (Nat.le_of_lt bN) w q hq]
    refine or_iff_left ?_
    -- the first gadget does not lead to the entry of the second
    rintro ⟨_, w0, u, rfl, h0, _⟩
    rcases (ga.paths w0 (n.length + 1) bN').mp h0 with ⟨_, h⟩ | ⟨h, _⟩
    · exact absurd h (Nat.succ_ne_self _)
    · exact absurd h.symm kN'
  have A3 : ∀ w q, q < n.length → (Path (Edge n2) (n.length + 1) w q ↔ q = cont ∧ Lb w) :=
    gb.paths_in (Nat.le_succ _) (Nat.le_trans (Nat.le_of_lt bN) hl1)
  rw [hE]
  exact path_branch hc hne (path_enter (dead_of_virgin vcur2) hne hc A2)
    (fun w q hq => (path_addEps_unreach (fun u hu => hne ((A3 u cur hc).mp hu).1) w q).trans (A3 w q hq)) w q hq

theorem gadget_opt (hp : Pre n cur cont)
    (g : Gadget n.newState.1 n1 n.length cont L)
    (h2 : n1.addEmptyTransition cur cont = .ok n2)
    (h3 : n2.addEmptyTransition cur n.length = .ok n3) :
    Gadget n n3 cur cont (fun w => w = [] ∨ L w) := by
  have hl := length_newState n
  have hne := hp.hne
  obtain ⟨bc, bk, bN, cN, kN⟩ := fresh_bounds hp.hcur hp.hcont (Nat.le_of_eq hl.symm)
  obtain ⟨bc1, bk1, bN1, -, -⟩ := fresh_bounds hp.hcur hp.hcont (hl ▸ g.frame.len)
  have f1 : Frame n n1 cur cont :=
    ((Frame.refl hp.wf cur cont).addState).addFrame g.frame (Or.inr (Nat.le_refl _)) (Or.inl rfl)
  obtain ⟨f3, -, hE⟩ := f1.addEdge2 h2 h3 bc1 bk1 bN1 (Or.inl rfl) (Or.inl rfl) (Or.inr (Nat.le_refl _))
  refine ⟨f3, fun w q hq => ?_⟩
  have dcur : Dead (Edge n1) cur := dead_of_virgin (g.frame.virgin bc cN (virgin_newState hp.vcur))
  have dcont : Dead (Edge n1) cont := dead_of_virgin (g.frame.virgin bk kN (virgin_newState hp.vcont))
  rw [hE, addEps_comm]
  exact path_skip hp.hcur hne (dead_addEps dcont hne.symm)
    (path_enter dcur hne hp.hcur (g.paths_in (Nat.le_refl _) (Nat.le_of_lt bN))) w q hq

theorem loop_paths {N : Nat} (hc : cur < N) (hk : cont < N)
    (hne : cur ≠ cont) (dcur : Dead E cur) (dcont : Dead E cont)
    (hp : ∀ w q, q < N + 2 → (Path E N w q ↔ (w = [] ∧ q = N) ∨ (q = N + 1 ∧ L w)))
    (w : List Sym) (q : Nat) (hq : q < N) :
    Path (addEps (addEps (addEps E (N + 1) cont) (N + 1) N) cur N) cur w q ↔
      (w = [] ∧ q = cur) ∨ (q = cont ∧ ∃ v w1, w = v ++ w1 ∧ Star L v ∧ L w1) := by
  have hN : cur ≠ N + 1 := Nat.ne_of_lt (Nat.lt_succ_of_lt hc)
  refine path_enter (L := fun w => ∃ v w1, w = v ++ w1 ∧ Star L v ∧ L w1) (dead_addEps (dead_addEps dcur hN) hN)
    hne hc (fun w q hq => ?_) w q hq
  rw [addEps_comm]
  have hseg : ∀ u, Path E N u (N + 1) ↔ L u := fun u =>
    (hp u (N + 1) (Nat.lt_succ_self _)).trans
      ⟨fun h => h.elim (fun h => absurd h.2 (Nat.succ_ne_self N)) (·.2), fun h => Or.inr ⟨rfl, h⟩⟩
  have hk1 : cont ≠ N + 1 := Nat.ne_of_lt (Nat.lt_succ_of_lt hk)
  rw [path_addEps_tgtDead _ (N + 1) cont N w q (dead_addEps dcont hk1) hk1.symm, path_addEps_fromTgt,
    path_addEps_fromTgt]
  constructor
  · rintro (⟨v, w1, rfl, hs, h1⟩ | ⟨hqc, v, w1, rfl, hs, h1⟩)
    · -- the loop without the edge to `cont` does not reach an old state
      rcases (hp w1 q (Nat.lt_add_right 2 hq)).mp h1 with ⟨_, h⟩ | ⟨h, _⟩
      · exact absurd h (Nat.ne_of_lt hq)
      · exact absurd h (Nat.ne_of_lt (Nat.lt_succ_of_lt hq))
    · exact ⟨hqc, v, w1, rfl, (star_congr hseg v).mp hs, (hseg w1).mp h1⟩
  · rintro ⟨hqc, v, w1, rfl, hs, h1⟩
    exact Or.inr ⟨hqc, v, w1, rfl, (star_congr hseg v).mpr hs, (hseg w1).mpr h1⟩

theorem star_iff_snoc (w : List Sym) :
    Star L w ↔ w = [] ∨ ∃ v w1, w = v ++ w1 ∧ Star L v ∧ L w1 := by
  constructor
  · intro hs
    cases hs with
    | nil => exact Or.inl rfl
    | cons h hs' => exact Or.inr (star_unsnoc h hs')
  · rintro (rfl | ⟨v, w1, rfl, hs, h1⟩)
    · exact Star.nil
    · exact star_append hs (star_single h1)

theorem plus_iff_snoc (w : List Sym) :
    (∃ u v, w = u ++ v ∧ L u ∧ Star L v) ↔ ∃ v w1, w = v ++ w1 ∧ Star L v ∧ L w1 := by
  constructor
  · rintro ⟨u, v, rfl, h, hs⟩; exact star_unsnoc h hs
  · rintro ⟨v, w1, rfl, hs, h⟩; exact star_snoc hs h

theorem loop_frame (hp : Pre n cur cont)
    (g : Gadget n.newState.1.newState.1 n1 n.length (n.length + 1) L) :
    Frame n n1 cur cont ∧ Dead (Edge n1) cur ∧ Dead (Edge n1) cont := by
  obtain ⟨bc, bk, _, _, _, _⟩ := fresh_bounds2 hp.hcur hp.hcont (Nat.le_of_eq (length_newState2 n).symm)
  exact ⟨(((Frame.refl hp.wf cur cont).addState).addState).addFrame g.frame (Or.inr (Nat.le_refl _))
      (Or.inr (Nat.le_succ _)),
    dead_of_virgin (g.frame.virgin bc (Nat.ne_of_lt hp.hcur) (virgin_newState (virgin_newState hp.vcur))),
    dead_of_virgin (g.frame.virgin bk (Nat.ne_of_lt hp.hcont) (virgin_newState (virgin_newState hp.vcont)))⟩

theorem gadget_plus (hp : Pre n cur cont)
    (g : Gadget n.newState.1.newState.1 n1 n.length (n.length + 1) L)
    (h2 : n1.addEmptyTransition cur n.length = .ok n2)
    (h3 : n2.addEmptyTransition (n.length + 1) cont = .ok n3)
    (h4 : n3.addEmptyTransition (n.length + 1) n.length = .ok n4) :
    Gadget n n4 cur cont (fun w => ∃ u v, w = u ++ v ∧ L u ∧ Star L v) := by
  have hL := length_newState2 n
  obtain ⟨f1, dcur, dcont⟩ := loop_frame hp g
  obtain ⟨bc1, bk1, bN1, bN1', _, _⟩ := fresh_bounds2 hp.hcur hp.hcont (hL ▸ g.frame.len)
  obtain ⟨f2, l2, e2⟩ := f1.addEdge h2 bc1 bN1 (Or.inl rfl) (Or.inr (Nat.le_refl _))
  obtain ⟨f4, -, e4⟩ := f2.addEdge2 h3 h4 (l2 ▸ bN1') (l2 ▸ bk1) (l2 ▸ bN1) (Or.inr (Nat.le_succ _)) (Or.inl rfl)
    (Or.inr (Nat.le_refl _))
  refine ⟨f4, fun w q hq => ?_⟩
  rw [e4, e2, addEps_comm (Edge n1), addEps_comm _ cur,
    loop_paths hp.hcur hp.hcont hp.hne dcur dcont (fun w q hq => g.paths w q (hL ▸ hq)) w q hq, plus_iff_snoc]

theorem gadget_star (hp : Pre n cur cont)
    (g : Gadget n.newState.1.newState.1 n1 n.length (n.length + 1) L)
    (h2 : n1.addEmptyTransition cur cont = .ok n2)
    (h3 : n2.addEmptyTransition cur n.length = .ok n3)
    (h4 : n3.addEmptyTransition (n.length + 1) cont = .ok n4)
    (h5 : n4.addEmptyTransition (n.length + 1) n.length = .ok n5) :
    Gadget n n5 cur cont (Star L) := by
  have hL := length_newState2 n
  have hne := hp.hne
  obtain ⟨f1, dcur, dcont⟩ := loop_frame hp g
  obtain ⟨_, _, _, _, _, kN'⟩ := fresh_bounds2 hp.hcur hp.hcont (Nat.le_of_eq hL.symm)
  obtain ⟨bc1, bk1, bN1, bN1', _, _⟩ := fresh_bounds2 hp.hcur hp.hcont (hL ▸ g.frame.len)
  obtain ⟨f3, l3, e3⟩ := f1.addEdge2 h2 h3 bc1 bk1 bN1 (Or.inl rfl) (Or.inl rfl) (Or.inr (Nat.le_refl _))
  obtain ⟨f5, -, e5⟩ := f3.addEdge2 h4 h5 (l3 ▸ bN1') (l3 ▸ bk1) (l3 ▸ bN1) (Or.inr (Nat.le_succ _)) (Or.inl rfl)
    (Or.inr (Nat.le_refl _))
  refine ⟨f5, fun w q hq => ?_⟩
  -- a star is a plus with an ε-edge past it; that edge is analysed last, so it goes outermost
  rw [e5, e3, addEps_comm2, addEps_comm _ cur cont, star_iff_snoc]
  exact path_skip hp.hcur hne (dead_addEps (dead_addEps (dead_addEps dcont kN') kN') hne.symm)
    (loop_paths hp.hcur hp.hcont hne dcur dcont fun w q hq => g.paths w q (hL ▸ hq)) w q hq

end Thompson
end Lexgen
