import LexgenModel.Model.Search
import LexgenModel.Proofs.RangeMap
/-!
# Generated membership tests: guard chains, binary search, range arms

* `guardChain_iff` — the `||` chain of range checks is membership in the list of ranges;
* `binarySearch_iff` — the `slice::binary_search_by` loop on a sorted table is membership;
* `rangeGuard_iff` — hence the guard of a shared arm is membership whatever `MAX_GUARD_SIZE` is;
* `armLookup_eq_lookup` — the generated range arms (accept arms first, then one arm per next
  state) compute the value of the range map at the character.
-/

namespace Lexgen

def SortedFrom (lo : Nat) : List (Nat × Nat) → Prop
  | [] => True
  | (s, e) :: rest => lo ≤ s ∧ s ≤ e ∧ SortedFrom (e + 1) rest

namespace Search

theorem getD_eq_getElem {α : Type} (l : List α) (d : α) {i : Nat} (h : i < l.length) : l.getD i d = l[i] :=
  (List.getElem_eq_getD d).symm

theorem getD_mem {α : Type} (l : List α) (d : α) (i : Nat) (h : i < l.length) : l.getD i d ∈ l := by
  rw [getD_eq_getElem l d h]
  exact List.getElem_mem h

theorem exists_getD_of_mem {α : Type} (l : List α) (d : α) (a : α) (h : a ∈ l) :
    ∃ i, i < l.length ∧ l.getD i d = a := by
  obtain ⟨i, hi, he⟩ := List.mem_iff_getElem.mp h
  exact ⟨i, hi, by rw [getD_eq_getElem l d hi, he]⟩

open RangeMap in
theorem sortedFrom_iff_wfFrom {lo : Nat} {l : List (Nat × Nat)} :
    SortedFrom lo l ↔ WFFrom lo (l.map fun p => (p.1, p.2, ())) := by
  induction l generalizing lo with
  | nil => exact Iff.rfl
  | cons p rest ih => exact and_congr_right fun _ => and_congr_right fun _ => ih

def Contains (c : Nat) (r : Nat × Nat) : Prop := r.1 ≤ c ∧ c ≤ r.2

section
variable {lo : Nat} {l : List (Nat × Nat)} (h : SortedFrom lo l)
include h

theorem sortedFrom_mono {lo' : Nat} (hle : lo' ≤ lo) : SortedFrom lo' l :=
  sortedFrom_iff_wfFrom.mpr ((sortedFrom_iff_wfFrom.mp h).mono hle)

theorem sortedFrom_mem {r : Nat × Nat} (hr : r ∈ l) : lo ≤ r.1 ∧ r.1 ≤ r.2 :=
  (sortedFrom_iff_wfFrom.mp h).mem (List.mem_map_of_mem hr)

theorem sortedFrom_pairwise : l.Pairwise fun a b => a.2 < b.1 := by
  induction l generalizing lo with
  | nil => exact List.Pairwise.nil
  | cons x rest ih => exact List.pairwise_cons.mpr ⟨fun r hr => (sortedFrom_mem h.2.2 hr).1, ih h.2.2⟩

/-- In a sorted table `c` lies before the start of entry `j` exactly when the entry that contains
`c` comes before `j`; so comparing `c` with starts locates that entry. -/
theorem lt_start_iff (d : Nat × Nat) {c i j : Nat} (hi : i < l.length) (hj : j < l.length)
    (hc : Contains c (l.getD i d)) : c < (l.getD j d).1 ↔ i < j := by
  have hp := List.pairwise_iff_getElem.mp (sortedFrom_pairwise h)
  rw [getD_eq_getElem l d hi] at hc
  rw [getD_eq_getElem l d hj]
  refine ⟨fun hlt => Nat.lt_of_not_le fun hji => Nat.not_le_of_lt hlt ?_,
    fun hij => Nat.lt_of_le_of_lt hc.2 (hp i j hi hj hij)⟩
  rcases Nat.eq_or_lt_of_le hji with rfl | hji
  · exact hc.1
  · exact Nat.le_trans (sortedFrom_mem h (List.getElem_mem hj)).2
      (Nat.le_trans (Nat.le_of_lt (hp j i hj hi hji)) hc.1)

end

theorem guardTest_iff (r : Nat × Nat) (c : Nat) :
    (if r.1 = r.2 then c == r.1 else decide (r.1 ≤ c) && decide (c ≤ r.2)) = true ↔ r.1 ≤ c ∧ c ≤ r.2 := by
  split
  next h =>
    rw [beq_iff_eq, ← h]
    exact Nat.le_antisymm_iff.trans And.comm
  next => rw [Bool.and_eq_true, decide_eq_true_eq, decide_eq_true_eq]

end Search

open Search

theorem guardChain_iff (ranges : List (Nat × Nat)) (c : Nat) :
    guardChain ranges c = true ↔ ∃ r ∈ ranges, r.1 ≤ c ∧ c ≤ r.2 := by
  unfold guardChain
  rw [List.any_eq_true]
  constructor
  · rintro ⟨r, hr, ht⟩
    exact ⟨r, hr, (guardTest_iff r c).mp ht⟩
  · rintro ⟨r, hr, ht⟩
    exact ⟨r, hr, (guardTest_iff r c).mpr ht⟩

namespace Search

theorem cmpRange_gt_iff (c : Nat) (r : Nat × Nat) : (cmpRange c r == .gt) = true ↔ c < r.1 := by
  unfold cmpRange
  by_cases h1 : c > r.1
  · rw [if_pos h1]
    split <;> exact iff_of_false nofun (Nat.lt_asymm h1)
  · rw [if_neg h1]
    by_cases h2 : c = r.1
    · rw [if_pos h2]
      exact iff_of_false nofun (Nat.not_lt_of_le (Nat.le_of_eq h2.symm))
    · rw [if_neg h2]
      exact iff_of_true rfl (Nat.lt_of_le_of_ne (Nat.le_of_not_lt h1) h2)

theorem cmpRange_eq_iff (c : Nat) (r : Nat × Nat) (hr : r.1 ≤ r.2) :
    (cmpRange c r == .eq) = true ↔ r.1 ≤ c ∧ c ≤ r.2 := by
  unfold cmpRange
  by_cases h1 : c > r.1
  · rw [if_pos h1]
    by_cases h2 : c ≤ r.2
    · rw [if_pos h2]
      exact iff_of_true rfl ⟨Nat.le_of_lt h1, h2⟩
    · rw [if_neg h2]
      exact iff_of_false nofun fun h => h2 h.2
  · rw [if_neg h1]
    by_cases h2 : c = r.1
    · rw [if_pos h2]
      exact iff_of_true rfl ⟨Nat.le_of_eq h2.symm, h2 ▸ hr⟩
    · rw [if_neg h2]
      exact iff_of_false nofun fun h => h1 (Nat.lt_of_le_of_ne h.1 (Ne.symm h2))

theorem bsLoop_succ (table : List (Nat × Nat)) (c fuel base size : Nat) :
    bsLoop table c (fuel + 1) base size =
      if size > 1 then
        bsLoop table c fuel
          (if cmpRange c (table.getD (base + size / 2) (0, 0)) == .gt then base else base + size / 2)
          (size - size / 2)
      else base := rfl

/-- loop invariant of `binary_search_by`: the window is inside the table, non-empty, and contains
the index of every range that contains `c`. The first clause keeps every probe inside the table
(`hmid` in `Window.probe`): the library reads `get_unchecked(mid)`, and the default `(0, 0)` of the
model's `getD` is never what a probe returns. -/
def Window (table : List (Nat × Nat)) (c : Nat) (base size : Nat) : Prop :=
  base + size ≤ table.length ∧ 1 ≤ size ∧
  ∀ i, i < table.length → Contains c (table.getD i (0, 0)) → base ≤ i ∧ i < base + size

/-- One probe, `h` entries into a window of `h + k`, keeps the invariant. The loop probes at
`h = size / 2` and keeps `k = size - h` entries either way, so after `Greater` it keeps the probed
entry although it is excluded; only `0 < h ≤ k` matters. -/
theorem Window.probe {table : List (Nat × Nat)} {c base h k : Nat} (hs : SortedFrom 0 table)
    (hw : Window table c base (h + k)) (h0 : 0 < h) (hk : h ≤ k) :
    Window table c (if cmpRange c (table.getD (base + h) (0, 0)) == .gt then base else base + h) k := by
  obtain ⟨hw1, _, hw3⟩ := hw
  have hk1 : 1 ≤ k := Nat.lt_of_lt_of_le h0 hk
  have hmid : base + h < table.length :=
    Nat.lt_of_lt_of_le (Nat.add_lt_add_left (Nat.lt_add_of_pos_right hk1) base) hw1
  split
  next hgt =>
    exact ⟨Nat.le_trans (Nat.add_le_add_left (Nat.le_add_left k h) base) hw1, hk1, fun i hi hc =>
      ⟨(hw3 i hi hc).1, Nat.lt_of_lt_of_le ((lt_start_iff hs _ hi hmid hc).mp ((cmpRange_gt_iff _ _).mp hgt))
        (Nat.add_le_add_left hk base)⟩⟩
  next hgt =>
    exact ⟨Nat.le_trans (Nat.le_of_eq (Nat.add_assoc base h k)) hw1, hk1, fun i hi hc =>
      ⟨Nat.le_of_not_lt fun hlt => hgt ((cmpRange_gt_iff _ _).mpr ((lt_start_iff hs _ hi hmid hc).mpr hlt)),
        Nat.lt_of_lt_of_eq (hw3 i hi hc).2 (Nat.add_assoc base h k).symm⟩⟩

theorem bsLoop_spec (table : List (Nat × Nat)) (c : Nat) (hs : SortedFrom 0 table) (fuel base size : Nat)
    (hfuel : size ≤ fuel) (hw : Window table c base size) :
    Window table c (bsLoop table c fuel base size) 1 := by
  induction fuel generalizing base size with
  | zero => exact absurd (Nat.le_trans hw.2.1 hfuel) (Nat.not_succ_le_zero 0)
  | succ fuel ih =>
    rw [bsLoop_succ]
    split
    next hsz =>
      have h0 : 0 < size / 2 := Nat.div_pos hsz (by decide)
      have hk : size / 2 ≤ size - size / 2 :=
        Nat.le_sub_of_add_le (Nat.le_trans (Nat.le_of_eq (Nat.two_mul _).symm) (Nat.mul_div_le size 2))
      have hlt : size - size / 2 < size := Nat.sub_lt (Nat.lt_trans Nat.zero_lt_one hsz) h0
      rw [← Nat.add_sub_cancel' (Nat.div_le_self size 2)] at hw
      exact ih _ _ (Nat.le_of_lt_succ (Nat.lt_of_lt_of_le hlt hfuel)) (hw.probe hs h0 hk)
    next hsz =>
      have : size = 1 := Nat.le_antisymm (Nat.le_of_not_lt hsz) hw.2.1
      subst this
      exact hw

end Search

theorem binarySearch_iff (table : List (Nat × Nat)) (c : Nat) (h : SortedFrom 0 table) :
    binarySearch table c = true ↔ ∃ r ∈ table, r.1 ≤ c ∧ c ≤ r.2 := by
  unfold binarySearch
  by_cases hnil : table = []
  · subst hnil
    exact ⟨fun h => Bool.noConfusion h, fun ⟨r, hr, _⟩ => nomatch hr⟩
  · rw [if_neg (by rwa [List.isEmpty_iff])]
    have hpos := List.length_pos_iff.mpr hnil
    obtain ⟨hlt, _, huniq⟩ := bsLoop_spec table c h table.length 0 table.length (Nat.le_refl _)
      ⟨Nat.le_of_eq (Nat.zero_add _), hpos,
        fun i hi _ => ⟨Nat.zero_le i, Nat.lt_of_lt_of_eq hi (Nat.zero_add _).symm⟩⟩
    have hb := getD_mem table (0, 0) _ hlt
    rw [cmpRange_eq_iff c _ (sortedFrom_mem h hb).2]
    refine ⟨fun hc => ⟨_, hb, hc⟩, fun ⟨r, hr, hc⟩ => ?_⟩
    obtain ⟨i, hi, rfl⟩ := exists_getD_of_mem table (0, 0) r hr
    have := huniq i hi hc
    rwa [Nat.le_antisymm this.1 (Nat.le_of_lt_succ this.2)]

theorem rangeGuard_iff (maxGuard : Nat) (ranges : List (Nat × Nat)) (c : Nat) (h : SortedFrom 0 ranges) :
    rangeGuard maxGuard ranges c = true ↔ ∃ r ∈ ranges, r.1 ≤ c ∧ c ≤ r.2 := by
  unfold rangeGuard
  by_cases hl : ranges.length > maxGuard
  · rw [if_pos hl]; exact binarySearch_iff ranges c h
  · rw [if_neg hl]; exact guardChain_iff ranges c

namespace Search

open RangeMap

theorem mem_rangesTo (ranges : RangeMap Trans) (t : Nat) (p : Nat × Nat) :
    p ∈ rangesTo ranges t ↔ (p.1, p.2, Trans.goto t) ∈ ranges := by
  unfold rangesTo
  rw [List.mem_filterMap]
  constructor
  · rintro ⟨⟨s, e, v⟩, hr, hf⟩
    cases v with
    | accept a => cases hf
    | goto t' =>
      obtain ⟨rfl, hp⟩ := Option.ite_none_right_eq_some.mp hf
      cases hp
      exact hr
  · exact fun hr => ⟨_, hr, if_pos rfl⟩

theorem rangesTo_sorted {lo : Nat} {ranges : RangeMap Trans} (h : WFFrom lo ranges) (t : Nat) :
    SortedFrom lo (rangesTo ranges t) := by
  induction ranges generalizing lo with
  | nil => trivial
  | cons x rest ih =>
    obtain ⟨s, e, v⟩ := x
    obtain ⟨h1, h2, h3⟩ := h
    have ihr : SortedFrom (e + 1) (rangesTo rest t) := ih h3
    have hskip : SortedFrom lo (rangesTo rest t) :=
      sortedFrom_mono ihr (Nat.le_trans h1 (Nat.le_trans h2 (Nat.le_succ e)))
    unfold rangesTo
    rw [List.filterMap_cons]
    cases v with
    | accept a => exact hskip
    | goto t' =>
      by_cases ht : t' = t
      · simp only [if_pos ht]
        exact ⟨h1, h2, ihr⟩
      · simp only [if_neg ht]
        exact hskip

theorem mem_rangeTargets (ranges : RangeMap Trans) (t : Nat) :
    t ∈ rangeTargets ranges ↔ ∃ s e, (s, e, Trans.goto t) ∈ ranges := by
  unfold rangeTargets
  rw [List.mem_eraseDups, List.mem_filterMap]
  constructor
  · rintro ⟨⟨s, e, v⟩, hr, hf⟩
    cases v with
    | accept a => cases hf
    | goto t' => cases hf; exact ⟨s, e, hr⟩
  · exact fun ⟨s, e, hr⟩ => ⟨_, hr, rfl⟩

theorem armGuard_iff (maxGuard : Nat) (ranges : RangeMap Trans) (h : WF ranges) (c t : Nat) :
    rangeGuard maxGuard (rangesTo ranges t) c = true ↔
      ∃ s e, (s, e, Trans.goto t) ∈ ranges ∧ s ≤ c ∧ c ≤ e := by
  rw [rangeGuard_iff maxGuard _ c (rangesTo_sorted h t)]
  constructor
  · rintro ⟨p, hp, hc⟩
    exact ⟨p.1, p.2, (mem_rangesTo ranges t p).mp hp, hc⟩
  · rintro ⟨s, e, hr, hc⟩
    exact ⟨(s, e), (mem_rangesTo ranges t (s, e)).mpr hr, hc⟩

def acceptTest (c : Nat) (r : Nat × Nat × Trans) : Bool :=
  match r.2.2 with
  | .accept _ => decide (r.1 ≤ c) && decide (c ≤ r.2.1)
  | .goto _ => false

theorem acceptTest_iff (c : Nat) (r : Nat × Nat × Trans) :
    acceptTest c r = true ↔ (∃ a, r.2.2 = Trans.accept a) ∧ r.1 ≤ c ∧ c ≤ r.2.1 := by
  obtain ⟨s, e, v⟩ := r
  cases v with
  | accept a =>
    simp only [acceptTest, Bool.and_eq_true, decide_eq_true_eq]
    exact ⟨fun h => ⟨⟨a, rfl⟩, h⟩, fun h => h.2⟩
  | goto t => exact iff_of_false nofun fun ⟨⟨a, ha⟩, _⟩ => nomatch ha

theorem armLookup_unfold (maxGuard : Nat) (ranges : RangeMap Trans) (c : Nat) :
    armLookup maxGuard ranges c =
      match ranges.find? (acceptTest c) with
      | some r => some r.2.2
      | none => ((rangeTargets ranges).find? fun t => rangeGuard maxGuard (rangesTo ranges t) c).map Trans.goto := rfl

end Search

open Search RangeMap in
theorem armLookup_eq_lookup (maxGuard : Nat) (ranges : RangeMap Trans) (h : RangeMap.WF ranges) (c : Nat) :
    armLookup maxGuard ranges c = RangeMap.lookup ranges c := by
  rw [armLookup_unfold]
  cases hf : ranges.find? (acceptTest c) with
  | some r =>
    have ht := (acceptTest_iff c r).mp (List.find?_some hf)
    exact ((lookup_eq_some_iff h).mpr ⟨r, List.mem_of_find?_eq_some hf, ht.2.1, ht.2.2, rfl⟩).symm
  | none =>
    rw [List.find?_eq_none] at hf
    cases hg : (rangeTargets ranges).find? (fun t => rangeGuard maxGuard (rangesTo ranges t) c) with
    | some t =>
      have hp := List.find?_some hg
      obtain ⟨s, e, hr, hc⟩ := (armGuard_iff maxGuard ranges h c t).mp hp
      exact ((lookup_eq_some_iff h).mpr ⟨_, hr, hc.1, hc.2, rfl⟩).symm
    | none =>
      -- no arm fires, so no range contains `c`: an accept range would fire its own arm, a range
      -- leading to `t` the arm of `t`
      rw [List.find?_eq_none] at hg
      refine (Option.eq_none_iff_forall_ne_some.mpr fun v hv => ?_).symm
      obtain ⟨⟨s, e, v⟩, hr, h1, h2, rfl⟩ := (lookup_eq_some_iff h).mp hv
      cases v with
      | accept a => exact hf _ hr ((acceptTest_iff c _).mpr ⟨⟨a, rfl⟩, h1, h2⟩)
      | goto t =>
        exact hg t ((mem_rangeTargets ranges t).mpr ⟨s, e, hr⟩)
          ((armGuard_iff maxGuard ranges h c t).mpr ⟨s, e, hr, h1, h2⟩)

example : binarySearch [(1, 3), (5, 5), (7, 9), (11, 20)] 8 = true := by decide
example : binarySearch [(1, 3), (5, 5), (7, 9), (11, 20)] 10 = false := by decide
example : binarySearch [(1, 3), (5, 5), (7, 9), (11, 20)] 0 = false := by decide
example : binarySearch [(1, 3), (5, 5), (7, 9), (11, 20)] 21 = false := by decide

end Lexgen
