import LexgenModel.Spec.Total
import LexgenModel.Proofs.Thompson
/-!
# `add_regex` never trips one of the NFA's own assertions

`addRegex_no_internal`: the only errors of `addRegex` are the user's.

The invariant: every call `addRe r cur cont n` is made with `n.st cur = NState.empty` (the state `cur` is fresh and
untouched), `cur < n.length`, `cont < n.length`; a successful call changes no old state other than `cur` (`Fr`), so
the ε-edges added after a recursive call start in states whose ε-list is still empty. Both halves are one statement,
`addRe_safe`, in weakest-precondition form (`Safe`).
-/

namespace Lexgen
namespace ThompsonTotal
open Thompson

variable {n n' n1 n2 : NFA} {s t cur : Nat}

/-- `x` fails only with one of the user's errors, and its result, if there is one, satisfies `Q` -/
def Safe {α : Type} (x : Except CompileError α) (Q : α → Prop) : Prop :=
  match x with
  | .ok a => Q a
  | .error e => e.isInternal = false

theorem Safe.bind {α β : Type} {x : Except CompileError α} {f : α → Except CompileError β} {P : α → Prop}
    {Q : β → Prop} (hx : Safe x P) (hf : ∀ a, P a → Safe (f a) Q) : Safe (x >>= f) Q := by
  cases x with
  | error e => exact hx
  | ok a => exact hf a hx

theorem Safe.mono {α : Type} {x : Except CompileError α} {P Q : α → Prop} (hx : Safe x P)
    (h : ∀ a, P a → Q a) : Safe x Q := by
  cases x with
  | error e => exact hx
  | ok a => exact h a hx

theorem Safe.error {α : Type} {x : Except CompileError α} {Q : α → Prop} {e : CompileError} (hx : Safe x Q)
    (h : x = .error e) : e.isInternal = false := by
  subst h; exact hx

theorem regexToRangeMap_safe (re : Regex) : Safe (regexToRangeMap re) (fun _ => True) := by
  induction re with
  | builtin name =>
    unfold regexToRangeMap
    cases builtinRanges name
    · exact rfl
    · exact trivial
  | alt a b iha ihb | diff a b iha ihb => exact iha.bind fun _ _ => ihb.bind fun _ _ => trivial
  | chr | set | any => exact trivial
  -- every other form is refused with `unboundVar` or `notAClass`
  | _ => exact rfl

def Fr (n n' : NFA) (cur : Nat) : Prop :=
  n.length ≤ n'.length ∧ ∀ a, a < n.length → a ≠ cur → n'.st a = n.st a

theorem fr_modify (n : NFA) (s : Nat) (f : NState → NState) : Fr n (n.modify s f) s :=
  ⟨Nat.le_of_eq (List.length_modify _ _ _).symm, fun a _ ha => st_modify_ne n s a f ha⟩

theorem Fr.newState (n : NFA) (cur : Nat) : Fr n n.newState.1 cur :=
  ⟨length_newState n ▸ Nat.le_succ _, fun a _ _ => st_newState n a⟩

theorem Fr.trans {c : Nat} (f1 : Fr n n1 cur) (f2 : Fr n1 n2 c) (hc : c = cur ∨ n.length ≤ c) :
    Fr n n2 cur :=
  ⟨Nat.le_trans f1.1 f2.1, fun a ha hne =>
    (f2.2 a (Nat.lt_of_lt_of_le ha f1.1) (ne_of_eq_or_le ha hne hc)).trans (f1.2 a ha hne)⟩

theorem Fr.newState2 (n : NFA) (cur : Nat) : Fr n n.newState.1.newState.1 cur :=
  (Fr.newState n cur).trans (Fr.newState _ cur) (Or.inl rfl)

theorem safe_of_ok {x : Except CompileError NFA} {f : NState → NState} (h : x = .ok (n.modify s f)) :
    Safe x (Fr n · s) :=
  h ▸ fr_modify n s f

theorem safe_addEps (h : t ∉ (n.st s).eps) : Safe (n.addEmptyTransition s t) (Fr n · s) :=
  safe_of_ok (addEps_ok_iff.mpr ⟨h, rfl⟩)

theorem safe_addEps2 {t1 t2 : Nat} (hs : s < n.length) (he : (n.st s).eps = []) (hne : t2 ≠ t1) :
    Safe (n.addEmptyTransition s t1 >>= fun n1 => n1.addEmptyTransition s t2) (Fr n · s) := by
  rw [addEps_ok_iff.mpr ⟨by rw [he]; exact List.not_mem_nil, rfl⟩]
  show Safe (NFA.addEmptyTransition _ s t2) _
  rw [addEps_ok_iff.mpr ⟨?_, rfl⟩]
  · exact (fr_modify _ s _).trans (fr_modify _ s _) (Or.inl rfl)
  · rw [st_modify_self n s _ hs, he]
    exact fun h => (Subset.mem_setInsert.mp h).elim hne (fun h => nomatch h)

theorem safe_addChar {c : Nat} (t : Nat) (h : ∀ e ∈ (n.st s).chars, e.1 ≠ c) :
    Safe (n.addCharTransition s c t) (Fr n · s) :=
  safe_of_ok (addChar_fresh t h)

theorem nil_chars {c : Nat} (h : n.st s = NState.empty) : ∀ e ∈ (n.st s).chars, e.1 ≠ c := by
  rw [h]; exact fun _ h => nomatch h

theorem addStr_safe (cs : List Nat) : ∀ (cur cont : Nat) (n : NFA), cur < n.length →
    n.st cur = NState.empty → Safe (NFA.addStr cs cur cont n) (Fr n · cur) := by
  induction cs with
  | nil => exact fun cur cont n _ _ => ⟨Nat.le_refl _, fun _ _ _ => rfl⟩
  | cons c rest ih =>
    intro cur cont n hcur hv
    cases rest with
    | nil => exact safe_addChar cont (nil_chars hv)
    | cons c' cs =>
      rw [addStr_cons_cons]
      have hl := length_newState n
      refine (safe_addChar n.length (nil_chars (by rw [st_newState, hv]))).bind fun n1 u1 => ?_
      have hN : n.length < n.newState.1.length := hl ▸ Nat.lt_succ_self _
      refine (ih n.length cont n1 (Nat.lt_of_lt_of_le hN u1.1) ?_).mono fun n' f =>
        ((Fr.newState n cur).trans u1 (Or.inl rfl)).trans f (Or.inr (Nat.le_refl _))
      rw [u1.2 _ hN (Nat.ne_of_gt hcur), st_newState, Subset.st_eq_empty_of_le (n := n) (Nat.le_refl _)]

theorem addSet_safe (items : List CharOrRange) : ∀ (seen : List Nat) (cur cont : Nat) (n : NFA),
    cur < n.length → (∀ x ∈ (n.st cur).chars, x.1 ∈ seen) →
    Safe (NFA.addSet items seen cur cont n) (Fr n · cur) := by
  induction items with
  | nil => exact fun _ _ _ n _ _ => ⟨Nat.le_refl _, fun _ _ _ => rfl⟩
  | cons it items ih =>
    intro seen cur cont n hcur hseen
    cases it with
    | chr c =>
      simp only [NFA.addSet]
      by_cases hs : seen.contains c = true
      · rw [if_pos hs]; exact ih seen cur cont n hcur hseen
      · rw [if_neg hs]
        have hc : c ∉ seen := fun hm => hs (List.contains_iff_mem.mpr hm)
        rw [addChar_fresh (c := c) cont (fun x hx hxc => hc (hxc ▸ hseen x hx))]
        refine (ih (c :: seen) cur cont _ (by rw [List.length_modify]; exact hcur) ?_).mono
          fun n' u => (fr_modify n cur _).trans u (Or.inl rfl)
        rw [st_modify_self n cur _ hcur]
        intro x hx
        rcases List.mem_append.mp hx with hx | hx
        · exact List.mem_cons_of_mem _ (hseen x hx)
        · rw [List.mem_singleton.mp hx]; exact List.mem_cons_self
    | rng s e =>
      simp only [NFA.addSet]
      unfold NFA.addRangeTransition
      refine (ih seen cur cont _ (by rw [List.length_modify]; exact hcur) ?_).mono
        fun n' u => (fr_modify n cur _).trans u (Or.inl rfl)
      rw [st_modify_self n cur _ hcur]; exact hseen

theorem st_fresh (n : NFA) {a : Nat} (ha : n.length ≤ a) : n.newState.1.newState.1.st a = NState.empty := by
  rw [st_newState, st_newState, Subset.st_eq_empty_of_le (n := n) ha]

theorem safe_inner2 {r : Regex} {cont k : Nat}
    (ih : ∀ (cur cont : Nat) (n : NFA), cur < n.length → cont < n.length → n.st cur = NState.empty →
      Safe (NFA.addRe r cur cont n) (Fr n · cur))
    (hcur : cur < n.length) (hcont : cont < n.length) (hv : n.st cur = NState.empty)
    (hk : k < n.length + 2) :
    Safe (NFA.addRe r n.length k n.newState.1.newState.1) fun n1 =>
      Fr n n1 cur ∧ n1.st cur = NState.empty ∧ n1.st (n.length + 1) = NState.empty ∧
        cur < n1.length ∧ cont < n1.length ∧ n.length + 1 < n1.length := by
  have hL := length_newState2 n
  obtain ⟨bc, _, bN, bN', _, _⟩ := fresh_bounds2 hcur hcont (Nat.le_of_eq hL.symm)
  refine (ih _ _ _ bN (hL.symm ▸ hk) (st_fresh n (Nat.le_refl _))).mono fun n1 f1 => ?_
  obtain ⟨bc1, bk1, _, bN1', _, _⟩ := fresh_bounds2 hcur hcont (hL ▸ f1.1)
  refine ⟨(Fr.newState2 n cur).trans f1 (Or.inr (Nat.le_refl _)), ?_, ?_, bc1, bk1, bN1'⟩
  · rw [f1.2 cur bc (Nat.ne_of_lt hcur), st_newState, st_newState, hv]
  · rw [f1.2 _ bN' (Nat.succ_ne_self _), st_fresh n (Nat.le_succ _)]

theorem addRe_safe (re : Regex) : ∀ (cur cont : Nat) (n : NFA), cur < n.length → cont < n.length →
    n.st cur = NState.empty → Safe (NFA.addRe re cur cont n) (Fr n · cur) := by
  induction re with
  | builtin | diff =>
    intro cur cont n _ _ _
    rw [addRe_class (by trivial) cur cont n]
    exact (regexToRangeMap_safe _).bind fun m _ => fr_modify n cur _
  | var name => exact fun _ _ _ _ _ _ => rfl
  | chr c => exact fun cur cont n _ _ hv => safe_addChar cont (nil_chars hv)
  | str cs => exact fun cur cont n hcur _ hv => addStr_safe cs cur cont n hcur hv
  | set items =>
    exact fun cur cont n hcur _ hv => addSet_safe items [] cur cont n hcur (by rw [hv]; exact fun _ h => nomatch h)
  | star r ih =>
    intro cur cont n hcur hcont hv
    rw [addRe_star]
    have cN' : cur ≠ n.length + 1 := Nat.ne_of_lt (Nat.lt_succ_of_lt hcur)
    refine (safe_inner2 ih hcur hcont hv (Nat.lt_succ_self _)).bind
      fun n1 ⟨f1, c1, k1, bc1, _, bN1'⟩ => ?_
    rw [← bind_assoc]
    refine (safe_addEps2 bc1 (by rw [c1]; rfl) (Nat.ne_of_gt hcont)).bind fun n3 u3 => ?_
    refine (safe_addEps2 (Nat.lt_of_lt_of_le bN1' u3.1) (by rw [u3.2 _ bN1' cN'.symm, k1]; rfl) (Nat.ne_of_gt hcont)).mono
      fun n5 u5 => ?_
    exact (f1.trans u3 (Or.inl rfl)).trans u5 (Or.inr (Nat.le_succ _))
  | plus r ih =>
    intro cur cont n hcur hcont hv
    rw [addRe_plus]
    have cN' : cur ≠ n.length + 1 := Nat.ne_of_lt (Nat.lt_succ_of_lt hcur)
    refine (safe_inner2 ih hcur hcont hv (Nat.lt_succ_self _)).bind
      fun n1 ⟨f1, c1, k1, _, _, bN1'⟩ => ?_
    refine (safe_addEps (t := n.length) (by rw [c1]; exact List.not_mem_nil)).bind fun n2 u2 => ?_
    refine (safe_addEps2 (Nat.lt_of_lt_of_le bN1' u2.1) (by rw [u2.2 _ bN1' cN'.symm, k1]; rfl) (Nat.ne_of_gt hcont)).mono
      fun n4 u4 => ?_
    exact (f1.trans u2 (Or.inl rfl)).trans u4 (Or.inr (Nat.le_succ _))
  | opt r ih =>
    intro cur cont n hcur hcont hv
    rw [addRe_opt]
    have hl := length_newState n
    obtain ⟨bc, bk, bN, _, _⟩ := fresh_bounds hcur hcont (Nat.le_of_eq hl.symm)
    refine (ih _ _ _ bN bk (by rw [st_newState, Subset.st_eq_empty_of_le (n := n) (Nat.le_refl _)])).bind fun n1 f1 => ?_
    have c1 : n1.st cur = NState.empty := by rw [f1.2 cur bc (Nat.ne_of_lt hcur), st_newState, hv]
    refine (safe_addEps2 (Nat.lt_of_lt_of_le bc f1.1) (by rw [c1]; rfl) (Nat.ne_of_gt hcont)).mono fun n3 u3 => ?_
    exact ((Fr.newState n cur).trans f1 (Or.inr (Nat.le_refl _))).trans u3 (Or.inl rfl)
  | cat a b iha ihb =>
    intro cur cont n hcur hcont hv
    rw [addRe_cat]
    have hl := length_newState n
    obtain ⟨bc, bk, bN, _, _⟩ := fresh_bounds hcur hcont (Nat.le_of_eq hl.symm)
    refine (iha _ _ _ bc bN (by rw [st_newState, hv])).bind fun n1 f1 => ?_
    refine (ihb _ _ n1 (Nat.lt_of_lt_of_le bN f1.1) (Nat.lt_of_lt_of_le bk f1.1) ?_).mono fun n2 f2 =>
      ((Fr.newState n cur).trans f1 (Or.inl rfl)).trans f2 (Or.inr (Nat.le_refl _))
    rw [f1.2 _ bN (Nat.ne_of_gt hcur), st_newState, Subset.st_eq_empty_of_le (n := n) (Nat.le_refl _)]
  | alt a b iha ihb =>
    intro cur cont n hcur hcont hv
    rw [addRe_alt]
    have cN' : cur ≠ n.length + 1 := Nat.ne_of_lt (Nat.lt_succ_of_lt hcur)
    refine (safe_inner2 iha hcur hcont hv (Nat.lt_add_right 2 hcont)).bind
      fun n1 ⟨f1, c1, k1, bc1, bk1, bN1'⟩ => ?_
    refine (ihb _ _ n1 bN1' bk1 k1).bind fun n2 f2 => ?_
    refine (safe_addEps2 (Nat.lt_of_lt_of_le bc1 f2.1) (by rw [f2.2 cur bc1 cN', c1]; rfl)
      (Nat.succ_ne_self _)).mono fun n4 u4 => ?_
    exact (f1.trans f2 (Or.inr (Nat.le_succ _))).trans u4 (Or.inl rfl)
  | any =>
    exact fun cur cont n _ _ hv => safe_of_ok (addAny_ok_iff.mpr ⟨by rw [hv]; exact List.not_mem_nil, rfl⟩)
  | eoi =>
    exact fun cur cont n _ _ hv => safe_of_ok (addEoi_ok_iff.mpr ⟨by rw [hv]; exact List.not_mem_nil, rfl⟩)

end ThompsonTotal

open ThompsonTotal Thompson in
/-- `add_regex` never trips one of the NFA's own assertions (`add_char_transition`, `add_empty_transition`, `add_any_transition`,
`add_end_of_input_transition`, `make_state_accepting`): on any regex (variables inlined or not), starting from any well-formed NFA, the only
errors are the user's (unbound variable, unknown built-in, a non-class operand of `#`). -/
theorem addRegex_no_internal (nfa : NFA) (hwf : NFAWF nfa) (re : Regex) (ctx : Option Nat) (value : Nat) :
    ∀ e, nfa.addRegex re ctx value = .error e → e.isInternal = false := by
  intro e h
  refine Safe.error (Q := fun _ => True) ?_ h
  have h0 := hwf.nonempty
  have hl1 := length_newState nfa
  simp only [NFA.addRegex, newState_snd]
  refine (safe_of_ok (makeAcc_ok_iff.mpr
    ⟨by rw [st_newState, Subset.st_eq_empty_of_le (n := nfa) (Nat.le_refl _)]; rfl, rfl⟩)).bind fun n2 u2 => ?_
  have hN2 : nfa.length < n2.length := Nat.lt_of_lt_of_le (hl1 ▸ Nat.lt_succ_self _) u2.1
  have hl3 := length_newState n2
  refine (safe_addEps ?_).bind fun n4 u4 => ?_
  · rw [st_newState, u2.2 0 (hl1 ▸ Nat.succ_pos _) (Nat.ne_of_lt h0), st_newState]
    -- an old ε-target of state 0 is an old state
    exact fun hm => Nat.lt_asymm (hwf.targets 0 h0 _ (Or.inl hm)) hN2
  · have hN4 : n2.length < n4.length := Nat.lt_of_lt_of_le (hl3 ▸ Nat.lt_succ_self _) u4.1
    refine (addRe_safe re _ _ n4 hN4 (Nat.lt_trans hN2 hN4) ?_).mono fun _ _ => trivial
    rw [u4.2 _ (hl3 ▸ Nat.lt_succ_self _) (Nat.ne_of_gt (Nat.lt_trans h0 hN2)), st_newState,
      Subset.st_eq_empty_of_le (n := n2) (Nat.le_refl _)]

end Lexgen
