import LexgenModel.Spec.Machine
import LexgenModel.Proofs.Dispatch
import LexgenModel.Proofs.ScanPlain
/-!
# The decidable checker establishes the hypotheses of the run-time theorems

`machineWF` is evaluated by `lexmodel stage` on the machine the macro actually produced (dump
hooks) and the set of inlined states the macro reported; when all its clauses hold, `MachineOK` holds
for any configuration built on that machine with that set of inlined states.
Some of the report plays no part in `MachineOK`, because no run-time theorem needs it: `rangesOK` and `charsOK` (the lookups of
the model take the first matching entry whatever the shape of the table), `ctxIdxOK` (a missing right-context automaton reads as
the empty one), the `preds` half of `entriesOK`, and that state 0 is `Init`'s entry (`state0_of_machineWF` keeps it).
-/
namespace Lexgen
variable {σ τ ε : Type}

theorem state0_of_machineWF {d : DFA Trans} {entries : List (String × Nat)} {nCtx : Nat} {inl : List Nat}
    (h : (machineWF d entries nCtx inl).all = true) :
    (0 < d.length ∧ (d.st 0).initial = true ∧ (d.st 0).accepting = []) ∧
      (entries = [] ∨ ("Init", 0) ∈ entries) := by
  have h0 : (machineWF d entries nCtx inl).state0OK = true := by
    simp only [WFReport.all, Bool.and_eq_true] at h
    exact h.1.2
  simp only [machineWF, Bool.and_eq_true, Bool.or_eq_true, decide_eq_true_eq, List.isEmpty_iff,
    List.any_eq_true, beq_iff_eq] at h0
  refine ⟨⟨h0.1.1.1, h0.1.1.2, h0.1.2⟩, h0.2.imp_right fun ⟨e, hm, h1, h2⟩ => ?_⟩
  rwa [← h1, ← h2]

theorem machineOK_of_checker (cfg : Config σ τ ε) (nCtx : Nat)
    (h : (machineWF cfg.dfa cfg.entries nCtx cfg.inl).all = true) : MachineOK cfg := by
  have hstate0 := (state0_of_machineWF h).1
  simp only [WFReport.all, machineWF, Bool.and_eq_true] at h
  obtain ⟨⟨⟨⟨⟨⟨⟨⟨⟨hentries, htargets⟩, _hranges⟩, _hchars⟩, heoi⟩, hany⟩, hflags⟩, _hctx⟩, _⟩, hinl⟩ := h
  refine
    { flags := hflags
      acceptAny := hany
      targets := htargets
      inl := inlOK_sound cfg.dfa cfg.inl hinl
      state0 := hstate0
      entries := ?_
      eoiAccept := ?_ }
  · intro p hp
    have := (List.all_eq_true.mp hentries) p hp
    simp only [Bool.and_eq_true, decide_eq_true_eq] at this
    exact ⟨this.1.1.1, this.1.1.2, List.isEmpty_iff.mp this.2⟩
  · intro s t hst
    rcases ScanPlain.st_mem_or_empty cfg.dfa s with hm | he
    · have := List.all_eq_true.mp heoi _ hm
      rw [hst] at this
      cases this
    · rw [he] at hst
      cases hst

end Lexgen
