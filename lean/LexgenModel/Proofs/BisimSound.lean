import LexgenModel.Spec.BisimSpec
/-!
# Soundness of the product exploration (`bisim`)

If `bisim a b (· == ·) starts` reports `ok = true`, the two automata agree (`EquivFrom`) on every
word over code points `≤ charMax`, from every start pair. `Auto.step d c` is constant between two
consecutive boundary points of `c` (`step_class`), so every code point `≤ charMax` has a representative
in the list `repPts` the exploration iterates over; a successful exploration yields a set of pairs
closed under the step relation on representatives, with equal accept lists (`bisimLoop_closed`), and a
closed set gives agreement on every word (`closed_equiv`).
-/
namespace Lexgen
namespace BisimSound

/-- With no boundary point of the range `[s, e]` (`s` and `e + 1`) in `(p, q]`, the range
contains both of `p`, `q` or neither. -/
theorem mem_range_congr {s e p q : Nat} (hpq : p ≤ q) (hs : s ≤ p ∨ q < s) (he : e + 1 ≤ p ∨ q < e + 1) :
    (s ≤ p ∧ p ≤ e) ↔ (s ≤ q ∧ q ≤ e) :=
  ⟨fun h => ⟨Nat.le_trans h.1 hpq, Nat.le_of_lt_succ (he.resolve_left (Nat.not_le_of_lt (Nat.lt_succ_of_le h.2)))⟩,
   fun h => ⟨hs.resolve_right (Nat.not_lt_of_le h.1), Nat.le_trans hpq h.2⟩⟩

theorem lookupChar_eq_lookup {τ : Type} (l : List (Nat × τ)) (c : Nat) :
    lookupChar l c = RangeMap.lookup (l.map fun e => (e.1, e.1, e.2)) c := by
  induction l with
  | nil => rfl
  | cons e rest ih =>
    rw [lookupChar, List.map_cons, RangeMap.lookup, ih]
    exact ite_congr (propext Nat.le_antisymm_iff) (fun _ => rfl) (fun _ => rfl)

theorem rangeLookup_class {τ : Type} (l : RangeMap τ) (p q : Nat) (hpq : p ≤ q)
    (h : ∀ r ∈ l, (r.1 ≤ p ∨ q < r.1) ∧ (r.2.1 + 1 ≤ p ∨ q < r.2.1 + 1)) :
    RangeMap.lookup l p = RangeMap.lookup l q := by
  induction l with
  | nil => rfl
  | cons r rest ih =>
    have hk := h r List.mem_cons_self
    rw [RangeMap.lookup, RangeMap.lookup, ih fun r hr => h r (List.mem_cons_of_mem _ hr)]
    exact ite_congr (propext (mem_range_congr hpq hk.1 hk.2)) (fun _ => rfl) (fun _ => rfl)

/-- What holds of every element of a list built as `Auto.points` builds them holds of both points
of every entry. -/
theorem forall_pts {α : Type} {f g : α → Nat} {P : Nat → Prop} (l : List α) (acc : List Nat)
    (h : ∀ z ∈ l.foldl (fun acc e => f e :: g e :: acc) acc, P z) :
    (∀ z ∈ acc, P z) ∧ ∀ e ∈ l, P (f e) ∧ P (g e) := by
  induction l generalizing acc with
  | nil => exact ⟨h, fun _ he => nomatch he⟩
  | cons a rest ih =>
    obtain ⟨h1, h2⟩ := ih (f a :: g a :: acc) h
    exact ⟨fun z hz => h1 z (List.mem_cons_of_mem _ (List.mem_cons_of_mem _ hz)),
      List.forall_mem_cons.2 ⟨⟨h1 _ List.mem_cons_self, h1 _ (List.mem_cons_of_mem _ List.mem_cons_self)⟩, h2⟩⟩

theorem step_class {τ : Type} [Target τ] (d : DFA τ) (c : Cfg) (p q : Nat) (hpq : p ≤ q)
    (h : ∀ z ∈ Auto.points d c, z ≤ p ∨ q < z) : Auto.step d c p = Auto.step d c q := by
  cases c with
  | term accs => rfl
  | st s =>
    obtain ⟨hc, hr⟩ := List.forall_mem_append.mp h
    simp only [Auto.step, lookupTrans]
    rw [lookupChar_eq_lookup, lookupChar_eq_lookup,
      rangeLookup_class _ p q hpq (List.forall_mem_map.2 (forall_pts _ [] hc).2),
      rangeLookup_class _ p q hpq (forall_pts _ [] hr).2]

/-- The greatest element of `l` below `c`. -/
theorem exists_rep (l : List Nat) (h0 : 0 ∈ l) (c : Nat) :
    ∃ p ∈ l, p ≤ c ∧ ∀ z ∈ l, z ≤ p ∨ c < z := by
  induction c with
  | zero => exact ⟨0, h0, Nat.le_refl _, fun z _ => (Nat.lt_or_ge 0 z).symm⟩
  | succ c ih =>
    by_cases hc : c + 1 ∈ l
    · exact ⟨c + 1, hc, Nat.le_refl _, fun z _ => (Nat.lt_or_ge (c + 1) z).symm⟩
    · obtain ⟨p, hp, hpc, hz⟩ := ih
      exact ⟨p, hp, Nat.le_succ_of_le hpc, fun z hzl => (hz z hzl).imp_right fun h =>
        Nat.lt_of_le_of_ne h fun e => hc (e ▸ hzl)⟩

/-- The representatives `bisimLoop` compares two configurations on. -/
def repPts {τ₁ τ₂ : Type} [Target τ₁] [Target τ₂] (a : DFA τ₁) (b : DFA τ₂) (x y : Cfg) : List Nat :=
  (List.filter (fun z => decide (z ≤ charMax))
    (0 :: charMax :: (Auto.points a x ++ Auto.points b y))).eraseDups

theorem mem_repPts {τ₁ τ₂ : Type} [Target τ₁] [Target τ₂] (a : DFA τ₁) (b : DFA τ₂) (x y : Cfg)
    (z : Nat) :
    z ∈ repPts a b x y ↔
      (z = 0 ∨ z = charMax ∨ z ∈ Auto.points a x ∨ z ∈ Auto.points b y) ∧ z ≤ charMax := by
  unfold repPts
  rw [List.mem_eraseDups, List.mem_filter, List.mem_cons, List.mem_cons, List.mem_append,
    decide_eq_true_iff]

variable {τ₁ τ₂ : Type} [Target τ₁] [Target τ₂] (a : DFA τ₁) (b : DFA τ₂)

theorem exists_rep_step (x y : Cfg) (c : Nat) (hc : c ≤ charMax) :
    ∃ p ∈ repPts a b x y, Auto.step a x c = Auto.step a x p ∧ Auto.step b y c = Auto.step b y p := by
  have h0 : 0 ∈ repPts a b x y := (mem_repPts a b x y 0).2 ⟨Or.inl rfl, Nat.zero_le _⟩
  obtain ⟨p, hp, hpc, hz⟩ := exists_rep (repPts a b x y) h0 c
  -- a boundary point of either side is a representative if it is at most `c`
  have key : ∀ z, z ∈ Auto.points a x ∨ z ∈ Auto.points b y → z ≤ p ∨ c < z := fun z hzp =>
    (Nat.lt_or_ge c z).elim Or.inr fun hzc =>
      hz z ((mem_repPts a b x y z).2 ⟨Or.inr (Or.inr hzp), Nat.le_trans hzc hc⟩)
  exact ⟨p, hp, (step_class a x p c hpc fun z hzp => key z (Or.inl hzp)).symm,
    (step_class b y p c hpc fun z hzp => key z (Or.inr hzp)).symm⟩

def StepOK (T : Cfg × Cfg → Prop) (o1 o2 : Option Cfg) : Prop :=
  (o1 = none ∧ o2 = none) ∨ ∃ x' y', o1 = some x' ∧ o2 = some y' ∧ T (x', y')

theorem StepOK.mono {T T' : Cfg × Cfg → Prop} {o1 o2 : Option Cfg} (h : StepOK T o1 o2)
    (hT : ∀ p, T p → T' p) : StepOK T' o1 o2 := by
  rcases h with h | ⟨x', y', h1, h2, h3⟩
  · exact Or.inl h
  · exact Or.inr ⟨x', y', h1, h2, hT _ h3⟩

structure ClosedAt (S : List (Cfg × Cfg)) (x y : Cfg) : Prop where
  acc : Auto.acc a x = Auto.acc b y
  step : ∀ c ∈ repPts a b x y, StepOK (· ∈ S) (Auto.step a x c) (Auto.step b y c)
  eoi : StepOK (· ∈ S) (Auto.eoi a x) (Auto.eoi b y)

theorem go_ok (x y : Cfg)
    (w : List Nat) (seen : List (Cfg × Cfg)) (cs : List Nat)
    (acc next : List (Cfg × Cfg × List Nat))
    (h : bisimLoop.go a b x y w seen cs acc = .ok next) :
    (∀ q ∈ acc, q ∈ next) ∧
    ∀ c ∈ cs, StepOK (fun p => p ∈ seen ∨ ∃ q ∈ next, (q.1, q.2.1) = p)
      (Auto.step a x c) (Auto.step b y c) := by
  induction cs generalizing acc with
  | nil =>
    rw [bisimLoop.go.eq_1] at h
    cases h
    exact ⟨fun q hq => hq, fun _ hc => nomatch hc⟩
  | cons c cs ih =>
    rw [bisimLoop.go.eq_2] at h
    split at h
    next hx hy =>
      obtain ⟨h1, h2⟩ := ih acc h
      exact ⟨h1, List.forall_mem_cons.2 ⟨Or.inl ⟨hx, hy⟩, h2⟩⟩
    next x' y' hx hy =>
      split at h
      next hcond =>
        obtain ⟨h1, h2⟩ := ih acc h
        refine ⟨h1, List.forall_mem_cons.2 ⟨Or.inr ⟨x', y', hx, hy, ?_⟩, h2⟩⟩
        rcases (Bool.or_eq_true _ _).mp hcond with hs | ha
        · exact Or.inl (List.contains_iff_mem.1 hs)
        · obtain ⟨q, hq, hqe⟩ := List.any_eq_true.1 ha
          have hqe' := (Bool.and_eq_true _ _).mp hqe
          exact Or.inr ⟨q, h1 q hq, by rw [beq_iff_eq.1 hqe'.1, beq_iff_eq.1 hqe'.2]⟩
      next =>
        obtain ⟨h1, h2⟩ := ih _ h
        exact ⟨fun q hq => h1 q (List.mem_cons_of_mem _ hq), List.forall_mem_cons.2
          ⟨Or.inr ⟨x', y', hx, hy, Or.inr ⟨_, h1 _ List.mem_cons_self, rfl⟩⟩, h2⟩⟩
    next => cases h
    next => cases h

theorem bisimLoop_cons_ok (fuel : Nat) (x y : Cfg) (w : List Nat) (queue : List (Cfg × Cfg × List Nat))
    (seen : List (Cfg × Cfg))
    (h : (bisimLoop a b (fun l1 l2 => l1 == l2) (fuel + 1) ((x, y, w) :: queue) seen).ok = true) :
    (seen.contains (x, y) = true ∧ (bisimLoop a b (fun l1 l2 => l1 == l2) fuel queue seen).ok = true) ∨
    (Auto.acc a x = Auto.acc b y ∧ ∃ next extra,
      bisimLoop.go a b x y w ((x, y) :: seen) (repPts a b x y) [] = .ok next ∧
      StepOK (fun p => ∃ q ∈ extra, (q.1, q.2.1) = p) (Auto.eoi a x) (Auto.eoi b y) ∧
      (bisimLoop a b (fun l1 l2 => l1 == l2) fuel (queue ++ (extra ++ next)) ((x, y) :: seen)).ok = true) := by
  rw [bisimLoop.eq_3] at h
  by_cases hseen : seen.contains (x, y) = true
  · rw [if_pos hseen] at h
    exact Or.inl ⟨hseen, h⟩
  · rw [if_neg hseen] at h
    dsimp only at h
    by_cases hacc : (Auto.acc a x == Auto.acc b y) = true
    · rw [hacc, Bool.not_true, if_neg Bool.false_ne_true] at h
      refine Or.inr ⟨beq_iff_eq.1 hacc, ?_⟩
      unfold repPts
      cases hgo : bisimLoop.go a b x y w ((x, y) :: seen) _ [] with
      | error e =>
        rw [hgo] at h
        cases h
      | ok next =>
        rw [hgo] at h
        dsimp only at h
        refine ⟨next, ?_⟩
        split at h
        next hx hy => exact ⟨[], rfl, Or.inl ⟨hx, hy⟩, h⟩
        next x' y' hx hy =>
          exact ⟨[(x', y', eoiSym :: w)], rfl, Or.inr ⟨x', y', hx, hy, _, List.mem_cons_self, rfl⟩, h⟩
        next => cases h
        next => cases h
    · rw [Bool.eq_false_iff.mpr hacc, Bool.not_false, if_pos rfl] at h
      cases h

/-- Invariant of the exploration: on success there is a set containing `seen` and the queued
pairs, every member of which outside `seen` is closed. -/
theorem bisimLoop_closed (fuel : Nat) (queue : List (Cfg × Cfg × List Nat)) (seen : List (Cfg × Cfg))
    (h : (bisimLoop a b (fun l1 l2 => l1 == l2) fuel queue seen).ok = true) :
    ∃ S : List (Cfg × Cfg), (∀ p ∈ seen, p ∈ S) ∧ (∀ q ∈ queue, (q.1, q.2.1) ∈ S) ∧
      ∀ p ∈ S, p ∉ seen → ClosedAt a b S p.1 p.2 := by
  induction fuel generalizing queue seen with
  | zero => cases h
  | succ fuel ih =>
    cases queue with
    | nil => exact ⟨seen, fun p hp => hp, fun _ hq => (nomatch hq), fun p hp hn => absurd hp hn⟩
    | cons q queue =>
      obtain ⟨x, y, w⟩ := q
      rcases bisimLoop_cons_ok a b fuel x y w queue seen h with
        ⟨hseen, hrec⟩ | ⟨hacc, next, extra, hgo, heoi, hrec⟩
      · obtain ⟨S, h1, h2, h3⟩ := ih queue seen hrec
        exact ⟨S, h1, List.forall_mem_cons.2 ⟨h1 _ (List.contains_iff_mem.1 hseen), h2⟩, h3⟩
      · have hsteps := (go_ok a b x y w ((x, y) :: seen) _ [] next hgo).2
        obtain ⟨S, h1, h2, h3⟩ := ih _ ((x, y) :: seen) hrec
        obtain ⟨hq, h2⟩ := List.forall_mem_append.mp h2
        obtain ⟨he, hn⟩ := List.forall_mem_append.mp h2
        refine ⟨S, fun p hp => h1 p (List.mem_cons_of_mem _ hp),
          List.forall_mem_cons.2 ⟨h1 _ List.mem_cons_self, hq⟩, fun p hp hns => ?_⟩
        by_cases hpx : p = (x, y)
        · subst hpx
          exact ⟨hacc,
            fun c hc => (hsteps c hc).mono fun p hp => hp.elim (h1 p) fun ⟨q, hq, e⟩ => e ▸ hn q hq,
            heoi.mono fun p ⟨q, hq, e⟩ => e ▸ he q hq⟩
        · exact h3 p hp fun hmem => (List.mem_cons.1 hmem).elim hpx hns

theorem closed_equiv (S : List (Cfg × Cfg)) (hS : ∀ p ∈ S, ClosedAt a b S p.1 p.2) (w : List Nat)
    (hw : ∀ c ∈ w, c ≤ charMax) (cx cy : Cfg) (hxy : (cx, cy) ∈ S) :
    match runCfg a cx w, runCfg b cy w with
    | some cx', some cy' => CfgAgree a b cx' cy'
    | none, none => True
    | _, _ => False := by
  have hc : ClosedAt a b S cx cy := hS _ hxy
  induction w generalizing cx cy with
  | nil =>
    refine ⟨hc.acc, ?_⟩
    rcases hc.eoi with ⟨h1, h2⟩ | ⟨ex, ey, h1, h2, h3⟩
    · rw [h1, h2]
      trivial
    · rw [h1, h2]
      exact (hS _ h3).acc
  | cons c w ih =>
    obtain ⟨p, hp, ha, hb⟩ := exists_rep_step a b cx cy c (hw c List.mem_cons_self)
    rw [runCfg, runCfg, ha, hb]
    rcases hc.step p hp with ⟨h1, h2⟩ | ⟨x', y', h1, h2, h3⟩
    · rw [h1, h2]
      trivial
    · rw [h1, h2]
      exact ih (fun c' hc' => hw c' (List.mem_cons_of_mem _ hc')) x' y' h3 (hS _ h3)

theorem bisim_go_ok (accEq : List Acc → List Acc → Bool) (fuel : Nat) (starts : List (Nat × Nat)) (idx pairs : Nat)
    (h : (bisim.go a b accEq fuel starts idx pairs).1.ok = true) (x y : Nat)
    (hxy : (x, y) ∈ starts) :
    (bisimLoop a b accEq fuel [(Cfg.st x, Cfg.st y, [])] []).ok = true := by
  induction starts generalizing idx pairs with
  | nil => cases hxy
  | cons s rest ih =>
    obtain ⟨x0, y0⟩ := s
    rw [bisim.go.eq_2] at h
    split at h
    · rename_i hr
      rcases List.mem_cons.1 hxy with e | hxy'
      · cases e; exact hr
      · exact ih _ _ h hxy'
    · rename_i hr
      exact absurd h hr

end BisimSound

open BisimSound in
theorem bisim_sound {τ₁ τ₂ : Type} [Target τ₁] [Target τ₂] (a : DFA τ₁) (b : DFA τ₂) (starts : List (Nat × Nat))
    (h : (bisim a b (fun l1 l2 => l1 == l2) starts).1.ok = true) (x y : Nat) (hxy : (x, y) ∈ starts) :
    EquivFrom a b x y := by
  have hloop := bisim_go_ok a b _ _ starts 0 0 h x y hxy
  obtain ⟨S, _, h2, h3⟩ := bisimLoop_closed a b _ _ _ hloop
  have hmem : (Cfg.st x, Cfg.st y) ∈ S := h2 _ (List.mem_cons_self ..)
  have hS : ∀ p ∈ S, ClosedAt a b S p.1 p.2 := fun p hp => h3 p hp (fun hn => by cases hn)
  intro w hw
  exact closed_equiv a b S hS w hw _ _ hmem

theorem CfgAgree.symm {τ₁ τ₂ : Type} [Target τ₁] [Target τ₂] {a : DFA τ₁} {b : DFA τ₂} {cx cy : Cfg}
    (h : CfgAgree a b cx cy) : CfgAgree b a cy cx := by
  obtain ⟨h1, h2⟩ := h
  refine ⟨h1.symm, ?_⟩
  cases hx : Auto.eoi a cx <;> cases hy : Auto.eoi b cy <;> simp only [hx, hy] at h2 ⊢
  exact h2.symm

theorem EquivFrom.symm {τ₁ τ₂ : Type} [Target τ₁] [Target τ₂] {a : DFA τ₁} {b : DFA τ₂} {x y : Nat}
    (h : EquivFrom a b x y) : EquivFrom b a y x := by
  intro w hw
  have h1 := h w hw
  cases hx : runCfg a (.st x) w <;> cases hy : runCfg b (.st y) w <;> simp only [hx, hy] at h1 ⊢
  exact h1.symm

theorem EquivFrom.step {d d' : DFA Nat} {s s' : Nat} (h : EquivFrom d d' s s') (c : Nat) (hc : c ≤ charMax) :
    match lookupTrans (d.st s) c, lookupTrans (d'.st s') c with
    | some t, some t' => EquivFrom d d' t t'
    | none, none => True
    | _, _ => False := by
  have h1 := h [c] (by intro x hx; cases hx with | head => exact hc | tail _ h => cases h)
  cases hl : lookupTrans (d.st s) c with
  | none =>
    cases hl' : lookupTrans (d'.st s') c with
    | none => trivial
    | some t' => simp [runCfg, Auto.step, hl, hl'] at h1
  | some t =>
    cases hl' : lookupTrans (d'.st s') c with
    | none => simp [runCfg, Auto.step, hl, hl'] at h1
    | some t' =>
      show EquivFrom d d' t t'
      intro w hw
      have h2 := h (c :: w) (by
        intro x hx
        cases hx with
        | head => exact hc
        | tail _ hx' => exact hw x hx')
      simp only [runCfg, Auto.step, hl, hl', Option.map_some] at h2
      exact h2

theorem EquivFrom.acc {d d' : DFA Nat} {s s' : Nat} (h : EquivFrom d d' s s') :
    (d.st s).accepting = (d'.st s').accepting :=
  (h [] (fun _ hx => nomatch hx)).1

theorem EquivFrom.eoi {d d' : DFA Nat} {s s' : Nat} (h : EquivFrom d d' s s') :
    match (d.st s).eoi, (d'.st s').eoi with
    | some t, some t' => (d.st t).accepting = (d'.st t').accepting
    | none, none => True
    | _, _ => False := by
  have h1 := (h [] (fun _ hx => nomatch hx)).2
  simp only [Auto.eoi] at h1
  cases he : (d.st s).eoi <;> cases he' : (d'.st s').eoi <;> simp [he, he', Auto.acc, Target.toCfg] at h1 ⊢
  exact h1

end Lexgen
