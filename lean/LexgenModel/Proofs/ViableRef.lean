import LexgenModel.Spec.Viable
import LexgenModel.Exec.SpecRun
import LexgenModel.Proofs.RefMatch
/-!
# The viability scan of the executable specification, in terms of regex denotations

`viableRef` (Exec/SpecRun.lean) decides "is the language empty" and "is there a non-empty word" syntactically
(`aliveR`, `hasWordR`). These tests are exact on the iterated derivatives of regexes without empty pieces:
the invariant is `Norm` (`emptyR` only as the whole regex, `epsR` anywhere).
-/
namespace Lexgen

/-- a regex all of whose pieces denote something, except that `epsR = .star (.str [])` may occur anywhere;
in particular `emptyR = .str []` does not occur except inside `epsR` -/
def Norm0 : Regex → Prop
  | .star r => r = .str [] ∨ Norm0 r
  | .plus r | .opt r => Norm0 r
  | .cat a b | .alt a b => Norm0 a ∧ Norm0 b
  | r => ∃ w, den r w

def Norm (r : Regex) : Prop := r = emptyR ∨ Norm0 r

theorem norm0_of_noEmptyPieces (r : Regex) (h : NoEmptyPieces r) : Norm0 r := by
  induction r with
  | var n => exact h.elim
  | chr c => exact ⟨[.ch c], rfl⟩
  | str cs => exact ⟨cs.map Sym.ch, h, rfl⟩
  | star r ih => exact Or.inr (ih h)
  | plus r ih | opt r ih => exact ih h
  | cat a b iha ihb | alt a b iha ihb => exact ⟨iha h.1, ihb h.2⟩
  | any => exact ⟨[.ch 0], 0, rfl⟩
  | eoi => exact ⟨[.eoi], rfl⟩
  | builtin _ | set _ | diff _ _ => exact h.elim fun c hc => ⟨[.ch c], c, rfl, hc⟩

theorem norm_emptyR : Norm emptyR := Or.inl rfl

theorem norm0_epsR : Norm0 epsR := Or.inl rfl

theorem norm0_den {r : Regex} (h : Norm0 r) : ∃ w, den r w := by
  induction r with
  | star r _ => exact ⟨[], Star.nil⟩
  | plus r ih =>
    obtain ⟨w, hw⟩ := ih h
    exact ⟨w, w, [], (List.append_nil w).symm, hw, Star.nil⟩
  | opt r _ => exact ⟨[], Or.inl rfl⟩
  | cat a b iha ihb =>
    obtain ⟨u, hu⟩ := iha h.1
    obtain ⟨v, hv⟩ := ihb h.2
    exact ⟨u ++ v, u, v, rfl, hu, hv⟩
  | alt a b iha _ =>
    obtain ⟨u, hu⟩ := iha h.1
    exact ⟨u, Or.inl hu⟩
  | _ => exact h

theorem aliveR_of_den {r : Regex} {w : List Sym} (h : den r w) : aliveR r = true := ne_emptyR_of_den h

theorem aliveR_iff {r : Regex} (h : Norm r) : aliveR r = true ↔ ∃ w, den r w := by
  rcases h with rfl | h
  · exact iff_of_false Bool.false_ne_true fun ⟨w, hw⟩ => den_emptyR w hw
  · obtain ⟨w, hw⟩ := norm0_den h
    exact iff_of_true (aliveR_of_den hw) ⟨w, hw⟩

theorem star_hasWord_iff {L : List Sym → Prop} : (∃ x v, Star L (x :: v)) ↔ ∃ x v, L (x :: v) := by
  constructor
  · rintro ⟨x, v, h⟩
    obtain ⟨u, _, _, hu, _⟩ := (star_cons_iff x v).mp h
    exact ⟨x, u, hu⟩
  · rintro ⟨x, v, h⟩
    exact ⟨x, v, (star_cons_iff x v).mpr ⟨v, [], (List.append_nil v).symm, h, Star.nil⟩⟩

theorem cat_hasWord_iff {A B : List Sym → Prop} (hA : ∃ w, A w) (hB : ∃ w, B w) :
    (∃ x w, ∃ u v, x :: w = u ++ v ∧ A u ∧ B v) ↔ (∃ x v, A (x :: v)) ∨ ∃ x v, B (x :: v) := by
  constructor
  · rintro ⟨x, w, h⟩
    rcases (cat_cons_iff x w).mp h with ⟨u, _, _, hu, _⟩ | ⟨_, hv⟩
    · exact Or.inl ⟨x, u, hu⟩
    · exact Or.inr ⟨x, w, hv⟩
  · rintro (⟨x, u, hu⟩ | ⟨x, v, hv⟩)
    · obtain ⟨v, hv⟩ := hB
      exact ⟨x, u ++ v, x :: u, v, rfl, hu, hv⟩
    · obtain ⟨u, hu⟩ := hA
      cases u with
      | nil => exact ⟨x, v, [], x :: v, rfl, hu, hv⟩
      | cons y u => exact ⟨y, u ++ x :: v, y :: u, x :: v, rfl, hu, hv⟩

theorem hasWordR_iff {r : Regex} (h : Norm0 r) : hasWordR r = true ↔ ∃ x v, den r (x :: v) := by
  induction r with
  | var n => exact h.elim fun _ => False.elim
  | str cs =>
    obtain ⟨_, hne, _⟩ := h
    cases cs with
    | nil => exact absurd rfl hne
    | cons c cs => exact iff_of_true rfl ⟨.ch c, cs.map Sym.ch, hne, rfl⟩
  | star r ih =>
    rcases h with rfl | h
    · exact iff_of_false Bool.false_ne_true fun ⟨x, v, hv⟩ => List.cons_ne_nil x v ((den_epsR _).mp hv)
    · exact (ih h).trans star_hasWord_iff.symm
  | plus r ih =>
    exact (ih h).trans ((or_iff_left_of_imp star_hasWord_iff.mp).symm.trans
      (cat_hasWord_iff (norm0_den (r := r) h) ⟨[], Star.nil⟩).symm)
  | opt r ih =>
    exact (ih h).trans ⟨fun ⟨x, v, hv⟩ => ⟨x, v, Or.inr hv⟩,
      fun ⟨x, v, hv⟩ => ⟨x, v, hv.resolve_left (List.cons_ne_nil x v)⟩⟩
  | cat a b iha ihb =>
    exact Bool.or_eq_true_iff.trans ((or_congr (iha h.1) (ihb h.2)).trans
      (cat_hasWord_iff (norm0_den h.1) (norm0_den h.2)).symm)
  | alt a b iha ihb =>
    refine Bool.or_eq_true_iff.trans ((or_congr (iha h.1) (ihb h.2)).trans ?_)
    simp only [← exists_or]
    rfl
  | _ =>
    -- a one-symbol regex: it is not nullable, so the word it denotes is not empty
    obtain ⟨w, hw⟩ := h
    cases w with
    | nil => exact absurd ((nullableR_iff _).mpr hw) Bool.false_ne_true
    | cons x v => exact iff_of_true rfl ⟨x, v, hw⟩

theorem alive_hasWord_iff {r : Regex} (h : Norm r) :
    (aliveR r && hasWordR r) = true ↔ ∃ x v, den r (x :: v) := by
  rcases h with rfl | h
  · exact iff_of_false Bool.false_ne_true fun ⟨x, v, hv⟩ => den_emptyR _ hv
  · rw [Bool.and_eq_true, hasWordR_iff h]
    exact and_iff_right_of_imp fun ⟨x, v, hv⟩ => aliveR_of_den hv

theorem norm_ofBoolR (b : Bool) : Norm (ofBoolR b) := by
  cases b with
  | true => exact Or.inr norm0_epsR
  | false => exact norm_emptyR

theorem norm_mkCat {a b : Regex} (ha : Norm a) (hb : Norm b) : Norm (mkCat a b) := by
  rcases mkCat_cases a b with ⟨_, hm⟩ | ⟨_, hm⟩ | ⟨_, hm⟩ | ⟨hna, hnb, hm⟩
  · rw [hm]; exact norm_emptyR
  · rw [hm]; exact hb
  · rw [hm]; exact ha
  · rw [hm]; exact Or.inr ⟨ha.resolve_left hna, hb.resolve_left hnb⟩

theorem norm_altsR {r : Regex} (h : Norm r) : ∀ r' ∈ altsR r, Norm r' := by
  induction r with
  | alt a b iha ihb =>
    have h0 : Norm0 (.alt a b) := h.resolve_left nofun
    exact fun r' hr' => (List.mem_append.mp hr').elim (iha (Or.inr h0.1) r') (ihb (Or.inr h0.2) r')
  | _ => exact fun r' hr' => List.mem_singleton.mp hr' ▸ h

theorem norm_altOfList (l : List Regex) (h : ∀ r ∈ l, Norm0 r) : Norm (altOfList l) := by
  cases l with
  | nil => exact norm_emptyR
  | cons r rs =>
    refine Or.inr ?_
    induction rs generalizing r with
    | nil => exact h r (List.mem_singleton_self r)
    | cons r' rs ih => exact ⟨h r (List.mem_cons_self ..), ih r' fun q hq => h q (List.mem_cons_of_mem _ hq)⟩

theorem norm_mkAlt {a b : Regex} (ha : Norm a) (hb : Norm b) : Norm (mkAlt a b) := by
  unfold mkAlt
  apply norm_altOfList
  intro r hr
  rw [mem_dedupR, List.mem_filter, List.mem_append] at hr
  obtain ⟨hm, hne⟩ := hr
  have hn : Norm r := hm.elim (norm_altsR ha r) (norm_altsR hb r)
  exact hn.resolve_left fun e => by simp [e] at hne

theorem norm_derivR {r : Regex} (h : Norm r) (x : Sym) : Norm (derivR r x) := by
  rcases h with rfl | h
  · exact norm_emptyR
  induction r with
  | var n => exact norm_emptyR
  | str cs =>
    cases cs with
    | nil => exact norm_emptyR
    | cons c cs =>
      show Norm (if x = .ch c then (if cs = [] then epsR else .str cs) else emptyR)
      split
      · split
        · exact Or.inr norm0_epsR
        · next hcs => exact Or.inr ⟨cs.map Sym.ch, hcs, rfl⟩
      · exact norm_emptyR
  | star r ih => exact norm_mkCat (h.elim (fun e => e ▸ norm_emptyR) ih) (Or.inr h)
  | plus r ih => exact norm_mkCat (ih h) (Or.inr (Or.inr h))
  | opt r ih => exact ih h
  | cat a b iha ihb =>
    show Norm (if nullableR a then mkAlt (mkCat (derivR a x) b) (derivR b x) else mkCat (derivR a x) b)
    split
    · exact norm_mkAlt (norm_mkCat (iha h.1) (Or.inr h.2)) (ihb h.2)
    · exact norm_mkCat (iha h.1) (Or.inr h.2)
  | alt a b iha ihb => exact norm_mkAlt (iha h.1) (ihb h.2)
  | _ => exact norm_ofBoolR _

theorem norm_map_derivR {cur : List Regex} (hn : ∀ r ∈ cur, Norm r) (x : Sym) :
    ∀ r ∈ cur.map (derivR · x), Norm r :=
  List.forall_mem_map.mpr fun r hr => norm_derivR (hn r hr) x

def ViableAt (res : List Regex) (iter : List Nat) (j : Nat) : Prop :=
  ∃ r ∈ res, ∃ v : List Sym, den r ((iter.take j).map Sym.ch ++ v)

def ExtendableAt (res : List Regex) (iter : List Nat) (j : Nat) : Prop :=
  ∃ r ∈ res, ∃ (x : Sym) (v : List Sym), den r ((iter.take j).map Sym.ch ++ x :: v)

/-- `k` is the length of the longest viable prefix of the input (the empty prefix counts as viable) -/
def IsViableLen (res : List Regex) (iter : List Nat) (k : Nat) : Prop :=
  k ≤ iter.length ∧ (∀ j, 0 < j → j ≤ k → ViableAt res iter j) ∧ (k < iter.length → ¬ ViableAt res iter (k + 1))

theorem isViableLen_unique {res : List Regex} {iter : List Nat} {k1 k2 : Nat}
    (h1 : IsViableLen res iter k1) (h2 : IsViableLen res iter k2) : k1 = k2 := by
  obtain ⟨a1, b1, c1⟩ := h1
  obtain ⟨a2, b2, c2⟩ := h2
  rcases Nat.lt_trichotomy k1 k2 with hlt | heq | hgt
  · exact absurd (b2 (k1 + 1) (Nat.succ_pos _) hlt) (c1 (Nat.lt_of_lt_of_le hlt a2))
  · exact heq
  · exact absurd (b1 (k2 + 1) (Nat.succ_pos _) hgt) (c2 (Nat.lt_of_lt_of_le hgt a1))

theorem exists_mem_map {α β : Type} (f : α → β) (l : List α) (p : β → Prop) :
    (∃ b ∈ l.map f, p b) ↔ ∃ a ∈ l, p (f a) := by
  constructor
  · rintro ⟨_, hb, h⟩
    obtain ⟨a, ha, rfl⟩ := List.mem_map.mp hb
    exact ⟨a, ha, h⟩
  · rintro ⟨a, ha, h⟩
    exact ⟨f a, List.mem_map_of_mem ha, h⟩

theorem viableAt_map_iff (rules : List CoreRule) (iter : List Nat) (j : Nat) :
    ViableAt (rules.map (·.re)) iter j ↔ Viable rules (iter.take j) :=
  exists_mem_map (·.re) rules fun r => ∃ v : List Sym, den r ((iter.take j).map Sym.ch ++ v)

theorem extendableAt_map_iff (rules : List CoreRule) (iter : List Nat) (j : Nat) :
    ExtendableAt (rules.map (·.re)) iter j ↔ Extendable rules (iter.take j) :=
  exists_mem_map (·.re) rules fun r => ∃ (x : Sym) (v : List Sym), den r ((iter.take j).map Sym.ch ++ x :: v)

theorem viableAt_cons (cur : List Regex) (c : Nat) (rest : List Nat) (j : Nat) :
    ViableAt cur (c :: rest) (j + 1) ↔ ViableAt (cur.map (derivR · (.ch c))) rest j := by
  simp only [ViableAt, exists_mem_map, den_derivR, List.take_succ_cons, List.map_cons, List.cons_append]

theorem extendableAt_cons (cur : List Regex) (c : Nat) (rest : List Nat) (j : Nat) :
    ExtendableAt cur (c :: rest) (j + 1) ↔ ExtendableAt (cur.map (derivR · (.ch c))) rest j := by
  simp only [ExtendableAt, exists_mem_map, den_derivR, List.take_succ_cons, List.map_cons, List.cons_append]

theorem any_alive_iff (cur : List Regex) (hn : ∀ r ∈ cur, Norm r) (iter : List Nat) :
    cur.any aliveR = true ↔ ViableAt cur iter 0 :=
  List.any_eq_true.trans (exists_congr fun r => and_congr_right fun hr => aliveR_iff (hn r hr))

theorem any_alive_hasWord_iff (cur : List Regex) (hn : ∀ r ∈ cur, Norm r) (iter : List Nat) :
    (cur.any fun r => aliveR r && hasWordR r) = true ↔ ExtendableAt cur iter 0 :=
  List.any_eq_true.trans (exists_congr fun r => and_congr_right fun hr => alive_hasWord_iff (hn r hr))

theorem isViableLen_zero_cons {cur : List Regex} {c : Nat} {rest : List Nat}
    (h : ¬ ViableAt (cur.map (derivR · (.ch c))) rest 0) : IsViableLen cur (c :: rest) 0 :=
  ⟨Nat.zero_le _, fun _ h0 hj => absurd h0 (Nat.not_lt.mpr hj), fun _ hv => h ((viableAt_cons ..).mp hv)⟩

theorem isViableLen_succ_cons {cur : List Regex} {c : Nat} {rest : List Nat} {k : Nat}
    (h0 : ViableAt (cur.map (derivR · (.ch c))) rest 0) (h : IsViableLen (cur.map (derivR · (.ch c))) rest k) :
    IsViableLen cur (c :: rest) (k + 1) := by
  refine ⟨Nat.succ_le_succ h.1, fun j hj0 hj => ?_, fun hk hv => h.2.2 (Nat.lt_of_succ_lt_succ hk) ((viableAt_cons ..).mp hv)⟩
  cases j with
  | zero => exact absurd hj0 (Nat.lt_irrefl 0)
  | succ j =>
    rw [viableAt_cons]
    cases j with
    | zero => exact h0
    | succ j => exact h.2.1 (j + 1) (Nat.succ_pos j) (Nat.le_of_succ_le_succ hj)

theorem viableRef_norm (cur : List Regex) (hn : ∀ r ∈ cur, Norm r) (iter : List Nat) :
    IsViableLen cur iter (viableRef cur iter).1 ∧
    (((viableRef cur iter).2.any fun r => aliveR r && hasWordR r) = true ↔
      ExtendableAt cur iter (viableRef cur iter).1) := by
  induction iter generalizing cur with
  | nil =>
    exact ⟨⟨Nat.le_refl 0, fun j h0 hj => absurd h0 (Nat.not_lt.mpr hj), fun h => absurd h (Nat.lt_irrefl 0)⟩,
      any_alive_hasWord_iff cur hn []⟩
  | cons c rest ih =>
    have hn' := norm_map_derivR hn (.ch c)
    by_cases hal : (cur.map (derivR · (.ch c))).any aliveR = true
    · rw [show viableRef cur (c :: rest) = _ from if_pos hal]
      obtain ⟨i1, i2⟩ := ih _ hn'
      exact ⟨isViableLen_succ_cons ((any_alive_iff _ hn' rest).mp hal) i1, i2.trans (extendableAt_cons ..).symm⟩
    · rw [show viableRef cur (c :: rest) = _ from if_neg hal]
      exact ⟨isViableLen_zero_cons fun h => hal ((any_alive_iff _ hn' rest).mpr h),
        any_alive_hasWord_iff cur hn _⟩

theorem norm_of_noEmptyPieces {res : List Regex} (hne : ∀ r ∈ res, NoEmptyPieces r) : ∀ r ∈ res, Norm r :=
  fun r hr => Or.inr (norm0_of_noEmptyPieces r (hne r hr))

/-- `viableRef` computes the length `k` of the longest prefix of the input that some regex can still extend to one of its words, and whether after
that prefix some regex can be extended by at least one more symbol -/
theorem viableRef_spec (res : List Regex) (hne : ∀ r ∈ res, NoEmptyPieces r) (iter : List Nat) :
    (viableRef res iter).1 ≤ iter.length ∧
    (∀ j, 0 < j → j ≤ (viableRef res iter).1 → ∃ r ∈ res, ∃ v : List Sym, den r ((iter.take j).map Sym.ch ++ v)) ∧
    ((viableRef res iter).1 < iter.length →
      ¬ ∃ r ∈ res, ∃ v : List Sym, den r ((iter.take ((viableRef res iter).1 + 1)).map Sym.ch ++ v)) ∧
    (((viableRef res iter).2.any fun r => aliveR r && hasWordR r) = true ↔
      ∃ r ∈ res, ∃ (x : Sym) (v : List Sym), den r ((iter.take (viableRef res iter).1).map Sym.ch ++ x :: v)) :=
  have h := viableRef_norm res (norm_of_noEmptyPieces hne) iter
  ⟨h.1.1, h.1.2.1, h.1.2.2, h.2⟩

end Lexgen
