import LexgenModel.Proofs.NextLocations
import LexgenModel.Proofs.NextMore
/-!
# Accounting: every call of `next()` accounts for a span of the input

`next_accounting_general` for one call; `next_accounting_partial` locates the error at the start position
*of the call* under `NoResetOnContinue`, and `next_accounting_counterexample` shows that hypothesis is
needed; `runN_spans_ordered` and `runN_spans_ordered_bytes` for successive calls.
-/
namespace Lexgen
variable {σ τ ε : Type}

namespace Accounting

/-- Lexer state in the middle of a scan: the accumulated match starts at character `start`, this
round of the loop began at character `pos0`, and characters up to `pos` have been read; a saved
match ends between `pos0` and `pos`; `done` is only set at the end of the input. -/
structure Scanning (w : Nat → Nat) (input : List Nat) (start pos0 pos : Nat) (st : LState σ) : Prop where
  le0 : start ≤ pos0
  le1 : pos0 ≤ pos
  le2 : pos ≤ input.length
  iter : st.iter = input.drop pos
  curEnd : st.curEnd = locAt w input pos
  curStart : st.curStart = locAt w input start
  done : st.done = true → pos = input.length
  saved : ∀ sv, st.last = some sv → ∃ p, pos0 ≤ p ∧ p ≤ pos ∧ sv.iter = input.drop p ∧
    sv.stop = locAt w input p ∧ sv.start = locAt w input start

end Accounting

open Accounting

theorem initState_atPos (width : Nat → Nat) (user : σ) (input : List Nat) : AtPos width input (initState user input) 0 0 :=
  ⟨rfl, Nat.le_refl _, Nat.zero_le _, rfl, rfl, rfl, fun h => by cases h⟩

/-- **Accounting**, no extra hypothesis, for one call of `next()` from a boundary state. An `InvalidToken` is located at the start `i` of the
match accumulated when the failing round of the loop began: `i = start` unless an earlier `continue` round of the same call reset the match, in
which case `pos ≤ i`; a token's span starts at `start` or at such a reset point and ends exactly at the new position; after a returned item the
match is empty (`start' = pos'`). (`_hr` is not needed for this: the statement takes the hypotheses of `next_accounting_partial`.) -/
theorem next_accounting_general (cfg : Config σ τ ε) (hm : MachineOK cfg) (input : List Nat) (st : LState σ) (start pos : Nat)
    (hp : AtPos cfg.width input st start pos) (_hr : Ready cfg st)
    (item : Option (Item τ ε)) (st' : LState σ) (h : next cfg st = some (item, st')) :
    ∃ start' pos', AtPos cfg.width input st' start' pos' ∧ pos ≤ pos' ∧ start ≤ start' ∧
      match item with
      | some (.tok s _ e) => ∃ i, start ≤ i ∧ i ≤ pos' ∧ (i = start ∨ pos ≤ i) ∧
          s = locAt cfg.width input i ∧ e = locAt cfg.width input pos' ∧ start' = pos'
      | some (.invalid l) => ∃ i, start ≤ i ∧ i ≤ pos' ∧ (i = start ∨ pos ≤ i) ∧ (NoResetOnContinue cfg input → i = start) ∧
          (i < pos' ∨ i = input.length) ∧ l = locAt cfg.width input i ∧ start' = pos' ∧ (pos < pos' ∨ pos = input.length)
      | some (.custom l _) => ∃ i, start ≤ i ∧ i ≤ pos' ∧ (i = start ∨ pos ≤ i) ∧ l = locAt cfg.width input i ∧ start' = pos'
      | none => st'.done = true ∧ pos' = input.length := by
  obtain ⟨start', pos', hat, h1, h2, hit⟩ := NextLoc.acct_of_spec input (next_spec hm hp.last h) start pos hp
  refine ⟨start', pos', hat, h1, h2, ?_⟩
  cases item with
  | none => exact hit
  | some it => cases it <;> exact hit

/-- **Accounting** with the `InvalidToken` located at the start position of the call, under the extra hypothesis `NoResetOnContinue`
(without it that clause is false: `next_accounting_counterexample`). -/
theorem next_accounting_partial (cfg : Config σ τ ε) (hm : MachineOK cfg) (input : List Nat) (st : LState σ) (start pos : Nat)
    (hp : AtPos cfg.width input st start pos) (hr : Ready cfg st)
    (hnr : NoResetOnContinue cfg input)
    (item : Option (Item τ ε)) (st' : LState σ) (h : next cfg st = some (item, st')) :
    ∃ start' pos', AtPos cfg.width input st' start' pos' ∧ pos ≤ pos' ∧ start ≤ start' ∧
      match item with
      | some (.tok s _ e) => ∃ i, start ≤ i ∧ i ≤ pos' ∧ s = locAt cfg.width input i ∧ e = locAt cfg.width input pos' ∧ start' = pos'
      | some (.invalid l) => l = locAt cfg.width input start ∧ start' = pos' ∧ (pos < pos' ∨ pos = input.length)
      | some (.custom l _) => ∃ i, start ≤ i ∧ i ≤ pos' ∧ l = locAt cfg.width input i ∧ start' = pos'
      | none => st'.done = true ∧ pos' = input.length := by
  obtain ⟨start', pos', hat, h1, h2, hit⟩ := next_accounting_general cfg hm input st start pos hp hr item st' h
  refine ⟨start', pos', hat, h1, h2, ?_⟩
  cases item with
  | none => exact hit
  | some it =>
    cases it with
    | tok s t e =>
      obtain ⟨i, b1, b2, _, b4, b5, b6⟩ := hit
      exact ⟨i, b1, b2, b4, b5, b6⟩
    | custom l e =>
      obtain ⟨i, b1, b2, _, b4, b5⟩ := hit
      exact ⟨i, b1, b2, b4, b5⟩
    | invalid l =>
      obtain ⟨i, _, _, _, b4, _, b6, b7, b8⟩ := hit
      refine ⟨?_, b7, b8⟩
      rw [b6, b4 hnr]

namespace Accounting

/-- one state: `' '` is matched by rule 0 -/
def cexDfa : DFA Trans := [{ initial := true, chars := [(32, .accept [⟨0, none⟩])] }]

/-- the lexer `rule Init { ' ', }` (rule 0 is a `skip` rule: its wrapper resets the match and continues) -/
def cexCfg : Config Unit Unit Unit :=
  { dfa := cexDfa, ctxs := [], entries := [], inl := [], actions := fun _ => .skip, width := fun _ => 1, input := none }

theorem cex_machineOK : MachineOK cexCfg where
  flags := by decide
  acceptAny := by decide
  targets := by decide
  inl := ⟨List.Pairwise.nil, fun i hi => by cases hi⟩
  state0 := ⟨by decide, rfl, rfl⟩
  entries := fun p hp => by cases hp
  eoiAccept := by
    intro s t h
    cases s with
    | zero => cases h
    | succ n => cases h

theorem cex_next : (next cexCfg (initState () [32, 98])).map (·.1) = some (some (.invalid ⟨0, 1, 1⟩)) := by
  decide

end Accounting

/-- **Without `NoResetOnContinue` the statement of `next_accounting_partial` is false.** Lexer `rule Init { ' ', }` on the input `" b"`, fresh state (`start = pos = 0`):
the first round of the loop matches `' '`, the skip wrapper resets the match (`curStart := curEnd`, character 1) and continues; the second
round fails on `'b'` and reports `InvalidToken` at `curStart` = location of character 1 (`byte = 1`), whereas the statement demands the
location of `start = 0` (`byte = 0`). -/
theorem next_accounting_counterexample :
    ¬ (∀ (cfg : Config Unit Unit Unit) (_ : MachineOK cfg) (input : List Nat) (st : LState Unit) (start pos : Nat)
        (_ : AtPos cfg.width input st start pos) (_ : Ready cfg st)
        (item : Option (Item Unit Unit)) (st' : LState Unit) (_ : next cfg st = some (item, st')),
        ∃ start' pos', AtPos cfg.width input st' start' pos' ∧ pos ≤ pos' ∧ start ≤ start' ∧
          match item with
          | some (.tok s _ e) => ∃ i, start ≤ i ∧ i ≤ pos' ∧ s = locAt cfg.width input i ∧ e = locAt cfg.width input pos' ∧ start' = pos'
          | some (.invalid l) => l = locAt cfg.width input start ∧ start' = pos' ∧ (pos < pos' ∨ pos = input.length)
          | some (.custom l _) => ∃ i, start ≤ i ∧ i ≤ pos' ∧ l = locAt cfg.width input i ∧ start' = pos'
          | none => st'.done = true ∧ pos' = input.length) := by
  intro hall
  obtain ⟨⟨item, st'⟩, hx, hitem⟩ := Option.map_eq_some_iff.mp cex_next
  cases hitem
  obtain ⟨start', pos', _, _, _, hl, _⟩ :=
    hall cexCfg cex_machineOK [32, 98] (initState () [32, 98]) 0 0 (initState_atPos _ _ _) (initState_ready _ _ _) _ st' hx
  exact absurd hl (by decide)

/-- `ItemSpan w input it i j`: the item `it` was produced for the character index span `[i, j)` of the input — `i` is where the item is
located (start of a token, position of an error), `j` is the position reached by the call that returned it (end of a token); an
`InvalidToken` span is non-empty unless the input was exhausted -/
def ItemSpan (w : Nat → Nat) (input : List Nat) : Item τ ε → Nat → Nat → Prop
  | .tok s _ e, i, j => s = locAt w input i ∧ e = locAt w input j
  | .invalid l, i, j => l = locAt w input i ∧ (i < j ∨ i = input.length)
  | .custom l _, i, _ => l = locAt w input i

/-- `Ordered w input p results q`: `results` are the results of successive calls of `next()`, the first of them made with the lexer at
character position `p` of the input, the last of them leaving it at position `q`. No call is stuck (`none`); every returned item has an index span
`[i, j)` with `p ≤ i ≤ j ≤ |input|`, i.e. it begins at or after the position `p` where the previous call ended, and the remaining results
are ordered from the position `j` where this call ended — so the spans of successive items are disjoint and in input order; `None` is only
returned with the whole input consumed (`q = |input|`), and only `None`s follow it. -/
def Ordered (w : Nat → Nat) (input : List Nat) : Nat → List (Option (Option (Item τ ε))) → Nat → Prop
  | p, [], q => p = q ∧ q ≤ input.length
  | _, none :: _, _ => False
  | p, some none :: rest, q => p ≤ input.length ∧ q = input.length ∧ ∀ x ∈ rest, x = some none
  | p, some (some it) :: rest, q => ∃ i j, p ≤ i ∧ i ≤ j ∧ j ≤ input.length ∧ ItemSpan w input it i j ∧ Ordered w input j rest q

def itemsOf (l : List (Option (Option (Item τ ε)))) : List (Item τ ε) :=
  l.filterMap fun x => match x with | some (some it) => some it | _ => none

/-- byte offsets (start, end) of an item; an error has an empty byte span at its location -/
def Item.byteSpan : Item τ ε → Nat × Nat
  | .tok s _ e => (s.byte, e.byte)
  | .invalid l => (l.byte, l.byte)
  | .custom l _ => (l.byte, l.byte)

theorem locAt_byte_mono (w : Nat → Nat) (input : List Nat) (i j : Nat) (h : i ≤ j) :
    (locAt w input i).byte ≤ (locAt w input j).byte := by
  obtain ⟨d, rfl⟩ := Nat.exists_eq_add_of_le h
  rw [NextLoc.locAt_byte, NextLoc.locAt_byte, List.take_add, List.map_append, List.sum_append]
  exact Nat.le_add_right _ _

/-- every character has `utf8Len ≥ 1` -/
theorem locAt_byte_strictMono (w : Nat → Nat) (input : List Nat) (i j : Nat) (h : i < j) (hj : j ≤ input.length) :
    (locAt w input i).byte < (locAt w input j).byte := by
  have hi : i < input.length := Nat.lt_of_lt_of_le h hj
  refine Nat.lt_of_lt_of_le ?_ (locAt_byte_mono w input (i + 1) j h)
  rw [NextLoc.locAt_byte, NextLoc.locAt_byte, List.take_succ_eq_append_getElem hi, List.map_append, List.sum_append]
  exact Nat.lt_add_of_pos_right (Nat.lt_of_lt_of_le (NextLoc.utf8Len_pos input[i]) (Nat.le_add_right _ _))

/-- a character index (`≤ |input|`) is determined by its location: the index spans in `Ordered` are those of the reported locations -/
theorem locAt_inj (w : Nat → Nat) (input : List Nat) (i j : Nat) (hi : i ≤ input.length) (hj : j ≤ input.length)
    (h : locAt w input i = locAt w input j) : i = j := by
  rcases Nat.lt_trichotomy i j with hlt | heq | hgt
  · have := locAt_byte_strictMono w input i j hlt hj
    rw [h] at this
    omega
  · exact heq
  · have := locAt_byte_strictMono w input j i hgt hi
    rw [h] at this
    omega

namespace Accounting

theorem ordered_bounds (w : Nat → Nat) (input : List Nat) :
    ∀ (l : List (Option (Option (Item τ ε)))) (p q : Nat), Ordered w input p l q → p ≤ q ∧ q ≤ input.length := by
  intro l
  induction l with
  | nil => exact fun p q h => ⟨Nat.le_of_eq h.1, h.2⟩
  | cons x rest ih =>
    intro p q h
    cases x with
    | none => exact h.elim
    | some y =>
      cases y with
      | none => exact ⟨h.2.1 ▸ h.1, Nat.le_of_eq h.2.1⟩
      | some it =>
        obtain ⟨i, j, h1, h2, _, _, h5⟩ := h
        exact ⟨Nat.le_trans (Nat.le_trans h1 h2) (ih j q h5).1, (ih j q h5).2⟩

theorem itemAcc_span {cfg : Config σ τ ε} {input : List Nat} {p start' pos' : Nat} {st' : LState σ} {it : Item τ ε}
    (h : NextLoc.ItemAcc cfg input p p start' pos' st' (some it)) :
    start' = pos' ∧ ∃ i, p ≤ i ∧ i ≤ pos' ∧ ItemSpan cfg.width input it i pos' := by
  cases it with
  | tok s t e =>
    obtain ⟨i, b1, b2, _, b4, b5, b6⟩ := h
    exact ⟨b6, i, b1, b2, b4, b5⟩
  | custom l e =>
    obtain ⟨i, b1, b2, _, b4, b6⟩ := h
    exact ⟨b6, i, b1, b2, b4⟩
  | invalid l =>
    obtain ⟨i, b1, b2, _, _, b5, b4, b6, _⟩ := h
    exact ⟨b6, i, b1, b2, b4, b5⟩

theorem itemSpan_bytes (w : Nat → Nat) (input : List Nat) (it : Item τ ε) (i j : Nat) (hij : i ≤ j)
    (h : ItemSpan w input it i j) :
    it.byteSpan.1 = (locAt w input i).byte ∧ it.byteSpan.1 ≤ it.byteSpan.2 ∧ it.byteSpan.2 ≤ (locAt w input j).byte := by
  have hmono := locAt_byte_mono w input i j hij
  cases it with
  | tok s t e =>
    obtain ⟨h1, h2⟩ := h
    subst h1 h2
    exact ⟨rfl, hmono, Nat.le_refl _⟩
  | invalid l =>
    obtain ⟨h1, _⟩ := h
    subst h1
    exact ⟨rfl, Nat.le_refl _, hmono⟩
  | custom l e =>
    have h1 : l = locAt w input i := h
    subst h1
    exact ⟨rfl, Nat.le_refl _, hmono⟩

theorem ordered_bytes (w : Nat → Nat) (input : List Nat) :
    ∀ (l : List (Option (Option (Item τ ε)))) (p q : Nat), Ordered w input p l q →
      (∀ a ∈ itemsOf l, (locAt w input p).byte ≤ a.byteSpan.1 ∧ a.byteSpan.1 ≤ a.byteSpan.2) ∧
      (itemsOf l).Pairwise (fun a b => a.byteSpan.2 ≤ b.byteSpan.1) := by
  intro l
  induction l with
  | nil =>
    intro p q _
    exact ⟨fun a ha => (by cases ha), List.Pairwise.nil⟩
  | cons x rest ih =>
    intro p q h
    cases x with
    | none => exact h.elim
    | some y =>
      cases y with
      | none =>
        have he : itemsOf (some none :: rest) = [] :=
          List.filterMap_eq_nil_iff.2 (List.forall_mem_cons.2 ⟨rfl, fun z hz => by rw [h.2.2 z hz]⟩)
        rw [he]
        exact ⟨fun a ha => (by cases ha), List.Pairwise.nil⟩
      | some it =>
        obtain ⟨i, j, h1, h2, h3, h4, h5⟩ := h
        obtain ⟨ih1, ih2⟩ := ih j q h5
        obtain ⟨s1, s2, s3⟩ := itemSpan_bytes w input it i j h2 h4
        have hpi := locAt_byte_mono w input p i h1
        have hpj := locAt_byte_mono w input p j (Nat.le_trans h1 h2)
        have hcons : itemsOf (some (some it) :: rest) = it :: itemsOf rest := rfl
        rw [hcons]
        constructor
        · exact List.forall_mem_cons.2 ⟨⟨s1 ▸ hpi, s2⟩, fun a ha => ⟨Nat.le_trans hpj (ih1 a ha).1, (ih1 a ha).2⟩⟩
        · exact List.Pairwise.cons (fun b hb => Nat.le_trans s3 (ih1 b hb).1) ih2

end Accounting

open Accounting

theorem runN_spans_ordered_from (cfg : Config σ τ ε) (hm : MachineOK cfg) (input : List Nat) :
    ∀ (n : Nat) (st : LState σ) (p : Nat), AtPos cfg.width input st p p → Ready cfg st →
      ∃ start q, AtPos cfg.width input (runN cfg n st).2 start q ∧ Ordered cfg.width input p (runN cfg n st).1 q ∧
        (some none ∈ (runN cfg n st).1 → q = input.length) := by
  intro n
  induction n with
  | zero =>
    intro st p hp _
    exact ⟨p, p, hp, ⟨rfl, hp.pos_le⟩, fun h => by cases h⟩
  | succ n ih =>
    intro st p hp hr
    obtain ⟨⟨item, st1⟩, hn⟩ := next_total cfg hm st hr
    obtain ⟨start', pos', hat, _, _, hit⟩ := NextLoc.acct_of_spec input (next_spec hm hp.last hn) p p hp
    rw [NextMore.runN_succ_some cfg n st item st1 hn]
    cases item with
    | none =>
      rw [NextMore.runN_done cfg n st1 hit.1]
      exact ⟨start', pos', hat, ⟨hp.pos_le, hit.2, fun x hx => (List.mem_replicate.1 hx).2⟩, fun _ => hit.2⟩
    | some it =>
      obtain ⟨rfl, i, b1, b2, hs⟩ := itemAcc_span hit
      obtain ⟨s2, q, hat2, hord, heof⟩ := ih st1 start' hat (next_ready cfg hm st hr _ st1 hn)
      exact ⟨s2, q, hat2, ⟨i, start', b1, b2, hat.pos_le, hs, hord⟩, fun hmem => (List.mem_cons.1 hmem).elim nofun heof⟩

/-- **Spans of successive items are disjoint and in input order**: the results of any number of calls from a fresh lexer are `Ordered` from
position `0` to the position `q` of the final lexer state, and `q = |input|` if some call returned `None`. By `locAt_inj` the index spans
are determined by the reported locations. -/
theorem runN_spans_ordered (cfg : Config σ τ ε) (hm : MachineOK cfg) (user : σ) (input : List Nat) (n : Nat) :
    ∃ start q, AtPos cfg.width input (runN cfg n (initState user input)).2 start q ∧
      Ordered cfg.width input 0 (runN cfg n (initState user input)).1 q ∧
      (some none ∈ (runN cfg n (initState user input)).1 → q = input.length) :=
  runN_spans_ordered_from cfg hm input n (initState user input) 0 (initState_atPos _ _ _) (initState_ready cfg user input)

/-- The same, read off the reported byte offsets alone: among the items returned by `n` calls from a fresh lexer, each item's byte span is
well-formed and ends at or before the start of every later item's. -/
theorem runN_spans_ordered_bytes (cfg : Config σ τ ε) (hm : MachineOK cfg) (user : σ) (input : List Nat) (n : Nat) :
    (∀ a ∈ itemsOf (runN cfg n (initState user input)).1, a.byteSpan.1 ≤ a.byteSpan.2) ∧
    (itemsOf (runN cfg n (initState user input)).1).Pairwise (fun a b => a.byteSpan.2 ≤ b.byteSpan.1) := by
  obtain ⟨_, q, _, hord, _⟩ := runN_spans_ordered cfg hm user input n
  obtain ⟨h1, h2⟩ := ordered_bytes _ _ _ _ _ hord
  exact ⟨fun a ha => (h1 a ha).2, h2⟩

end Lexgen
