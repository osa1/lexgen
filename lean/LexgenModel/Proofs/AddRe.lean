import LexgenModel.Proofs.ThompsonEdges
/-!
# `add_re`, one constructor at a time

Each equation below is the defining clause of `NFA.addRe` (or `addStr`, `addRegex`) with the fresh
state numbers written as `n.length`, `n.length + 1`; the `_ok` forms name the intermediate automata
of a successful call. The inductions over `addRe` (`Thompson.addRe_gadget`, `ThompsonTotal.addRe_safe`,
`NfaShape.addRe_inv`) take their recursive cases from these; the clauses for the leaves hold by reduction.
-/

namespace Lexgen
namespace Thompson

variable {n n' : NFA} {cur cont : Nat}

/-- the regexes that `addRe` first evaluates to a range map -/
def ViaRangeMap : Regex → Prop
  | .builtin _ => True
  | .diff _ _ => True
  | _ => False

theorem addRe_class {re : Regex} (hc : ViaRangeMap re) (cur cont : Nat) (n : NFA) :
    NFA.addRe re cur cont n = (do
      let m ← regexToRangeMap re
      pure (n.addRangeTransitions cur m cont)) := by
  cases re with
  | builtin name =>
    simp only [NFA.addRe, regexToRangeMap]
    cases builtinRanges name <;> rfl
  | diff a b => simp only [NFA.addRe]
  | _ => exact hc.elim

theorem addRe_class_ok {re : Regex}
    (h : NFA.addRe re cur cont n = .ok n') (hc : ViaRangeMap re) :
    ∃ m, regexToRangeMap re = .ok m ∧ n' = n.addRangeTransitions cur m cont := by
  rw [addRe_class hc] at h
  obtain ⟨m, hm, h⟩ := bind_eq_ok.mp h
  exact ⟨m, hm, (Except.ok.inj h).symm⟩

theorem addStr_cons_cons (c c' : Nat) (cs : List Nat) (cur cont : Nat) (n : NFA) :
    NFA.addStr (c :: c' :: cs) cur cont n = (do
      let n1 ← n.newState.1.addCharTransition cur c n.length
      NFA.addStr (c' :: cs) n.length cont n1) := by
  simp only [NFA.addStr, newState_snd]

theorem addRe_star (r : Regex) (cur cont : Nat) (n : NFA) :
    NFA.addRe (.star r) cur cont n = (do
      let n1 ← NFA.addRe r n.length (n.length + 1) n.newState.1.newState.1
      let n2 ← n1.addEmptyTransition cur cont
      let n3 ← n2.addEmptyTransition cur n.length
      let n4 ← n3.addEmptyTransition (n.length + 1) cont
      n4.addEmptyTransition (n.length + 1) n.length) := by
  simp only [NFA.addRe, newState_snd, length_newState]

theorem addRe_plus (r : Regex) (cur cont : Nat) (n : NFA) :
    NFA.addRe (.plus r) cur cont n = (do
      let n1 ← NFA.addRe r n.length (n.length + 1) n.newState.1.newState.1
      let n2 ← n1.addEmptyTransition cur n.length
      let n3 ← n2.addEmptyTransition (n.length + 1) cont
      n3.addEmptyTransition (n.length + 1) n.length) := by
  simp only [NFA.addRe, newState_snd, length_newState]

theorem addRe_opt (r : Regex) (cur cont : Nat) (n : NFA) :
    NFA.addRe (.opt r) cur cont n = (do
      let n1 ← NFA.addRe r n.length cont n.newState.1
      let n2 ← n1.addEmptyTransition cur cont
      n2.addEmptyTransition cur n.length) := by
  simp only [NFA.addRe, newState_snd]

theorem addRe_cat (a b : Regex) (cur cont : Nat) (n : NFA) :
    NFA.addRe (.cat a b) cur cont n = (do
      let n1 ← NFA.addRe a cur n.length n.newState.1
      NFA.addRe b n.length cont n1) := by
  simp only [NFA.addRe, newState_snd]

theorem addRe_alt (a b : Regex) (cur cont : Nat) (n : NFA) :
    NFA.addRe (.alt a b) cur cont n = (do
      let n1 ← NFA.addRe a n.length cont n.newState.1.newState.1
      let n2 ← NFA.addRe b (n.length + 1) cont n1
      let n3 ← n2.addEmptyTransition cur n.length
      n3.addEmptyTransition cur (n.length + 1)) := by
  simp only [NFA.addRe, newState_snd, length_newState]

theorem addStr_cons_cons_ok {c c' : Nat} {cs : List Nat}
    (h : NFA.addStr (c :: c' :: cs) cur cont n = .ok n') :
    ∃ n1, n.newState.1.addCharTransition cur c n.length = .ok n1 ∧
      NFA.addStr (c' :: cs) n.length cont n1 = .ok n' := by
  rw [addStr_cons_cons] at h
  exact bind_eq_ok.mp h

theorem addRe_star_ok {r : Regex} (h : NFA.addRe (.star r) cur cont n = .ok n') :
    ∃ n1 n2 n3 n4, NFA.addRe r n.length (n.length + 1) n.newState.1.newState.1 = .ok n1 ∧
      n1.addEmptyTransition cur cont = .ok n2 ∧ n2.addEmptyTransition cur n.length = .ok n3 ∧
      n3.addEmptyTransition (n.length + 1) cont = .ok n4 ∧
      n4.addEmptyTransition (n.length + 1) n.length = .ok n' := by
  rw [addRe_star] at h
  obtain ⟨n1, h1, h⟩ := bind_eq_ok.mp h
  obtain ⟨n2, h2, h⟩ := bind_eq_ok.mp h
  obtain ⟨n3, h3, h⟩ := bind_eq_ok.mp h
  obtain ⟨n4, h4, h⟩ := bind_eq_ok.mp h
  exact ⟨n1, n2, n3, n4, h1, h2, h3, h4, h⟩

theorem addRe_plus_ok {r : Regex} (h : NFA.addRe (.plus r) cur cont n = .ok n') :
    ∃ n1 n2 n3, NFA.addRe r n.length (n.length + 1) n.newState.1.newState.1 = .ok n1 ∧
      n1.addEmptyTransition cur n.length = .ok n2 ∧ n2.addEmptyTransition (n.length + 1) cont = .ok n3 ∧
      n3.addEmptyTransition (n.length + 1) n.length = .ok n' := by
  rw [addRe_plus] at h
  obtain ⟨n1, h1, h⟩ := bind_eq_ok.mp h
  obtain ⟨n2, h2, h⟩ := bind_eq_ok.mp h
  obtain ⟨n3, h3, h⟩ := bind_eq_ok.mp h
  exact ⟨n1, n2, n3, h1, h2, h3, h⟩

theorem addRe_opt_ok {r : Regex} (h : NFA.addRe (.opt r) cur cont n = .ok n') :
    ∃ n1 n2, NFA.addRe r n.length cont n.newState.1 = .ok n1 ∧
      n1.addEmptyTransition cur cont = .ok n2 ∧ n2.addEmptyTransition cur n.length = .ok n' := by
  rw [addRe_opt] at h
  obtain ⟨n1, h1, h⟩ := bind_eq_ok.mp h
  obtain ⟨n2, h2, h⟩ := bind_eq_ok.mp h
  exact ⟨n1, n2, h1, h2, h⟩

theorem addRe_cat_ok {a b : Regex} (h : NFA.addRe (.cat a b) cur cont n = .ok n') :
    ∃ n1, NFA.addRe a cur n.length n.newState.1 = .ok n1 ∧ NFA.addRe b n.length cont n1 = .ok n' := by
  rw [addRe_cat] at h
  exact bind_eq_ok.mp h

theorem addRe_alt_ok {a b : Regex} (h : NFA.addRe (.alt a b) cur cont n = .ok n') :
    ∃ n1 n2 n3, NFA.addRe a n.length cont n.newState.1.newState.1 = .ok n1 ∧
      NFA.addRe b (n.length + 1) cont n1 = .ok n2 ∧ n2.addEmptyTransition cur n.length = .ok n3 ∧
      n3.addEmptyTransition cur (n.length + 1) = .ok n' := by
  rw [addRe_alt] at h
  obtain ⟨n1, h1, h⟩ := bind_eq_ok.mp h
  obtain ⟨n2, h2, h⟩ := bind_eq_ok.mp h
  obtain ⟨n3, h3, h⟩ := bind_eq_ok.mp h
  exact ⟨n1, n2, n3, h1, h2, h3, h⟩

theorem addRegex_unfold {nfa nfa' : NFA} {re : Regex} {ctx : Option Nat} {value : Nat}
    (h : nfa.addRegex re ctx value = .ok nfa') :
    ∃ n2 n4, nfa.newState.1.makeStateAccepting nfa.length { value := value, ctx := ctx } = .ok n2 ∧
      n2.newState.1.addEmptyTransition 0 (nfa.length + 1) = .ok n4 ∧
      NFA.addRe re (nfa.length + 1) nfa.length n4 = .ok nfa' := by
  simp only [NFA.addRegex, newState_snd] at h
  obtain ⟨n2, h2, h⟩ := bind_eq_ok.mp h
  obtain ⟨n4, h4, h⟩ := bind_eq_ok.mp h
  have hl2 : n2.length = nfa.length + 1 := by
    rw [(makeAcc_ok_iff.mp h2).2, List.length_modify, length_newState]
  rw [hl2] at h4 h
  exact ⟨n2, n4, h2, h4, h⟩

theorem addRegex_prep {n2 n4 : NFA} {acc : Acc} (h0 : 0 < n.length)
    (h2 : n.newState.1.makeStateAccepting n.length acc = .ok n2)
    (h4 : n2.newState.1.addEmptyTransition 0 (n.length + 1) = .ok n4) :
    n4.length = n.length + 2 ∧ ∀ a, n4.st a =
      { n.st a with
        eps := if a = 0 then setInsert (n.length + 1) (n.st a).eps else (n.st a).eps
        acc := if a = n.length then some acc else (n.st a).acc } := by
  obtain ⟨_, rfl⟩ := makeAcc_ok_iff.mp h2
  obtain ⟨_, rfl⟩ := addEps_ok_iff.mp h4
  have hl := length_newState n
  have hN : n.length ≠ 0 := Nat.ne_of_gt h0
  refine ⟨by rw [List.length_modify, length_newState, List.length_modify, hl], fun a => ?_⟩
  by_cases ha0 : a = 0
  · subst ha0
    rw [st_modify_self _ _ _ (by rw [length_newState, List.length_modify]; omega), st_newState,
      st_modify_ne _ _ _ _ hN.symm, st_newState, if_pos rfl, if_neg hN.symm]
  · rw [st_modify_ne _ _ _ _ ha0, st_newState, if_neg ha0]
    by_cases haN : a = n.length
    · subst haN
      rw [st_modify_self _ _ _ (by omega), st_newState, if_pos rfl]
    · rw [st_modify_ne _ _ _ _ haN, st_newState, if_neg haN]

end Thompson
end Lexgen
