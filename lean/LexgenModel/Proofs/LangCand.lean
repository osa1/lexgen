import LexgenModel.Spec.WellFormed
import LexgenModel.Proofs.CompileLang
/-!
# Machine-level matches are language-level matches

For a machine whose automaton realises the rules of a rule set from entry `e` (`RealisesRules`, what
`compileLexer_lang` establishes for the model of `lexer()`) and whose right-context functions decide
the context languages, the declarative reading of the machine (`Cand`) coincides with the reading of
the definition itself (`LangCand`: regex denotations, rule order, right contexts as languages).
-/
namespace Lexgen
variable {σ τ ε : Type}

theorem mem_matchingAccs {rules : List CoreRule} {w : List Sym} {a : Acc} (h : a ∈ matchingAccs rules w) :
    ∃ r ∈ rules, a = { value := r.value, ctx := r.ctx } := by
  unfold matchingAccs at h
  obtain ⟨r, hr, rfl⟩ := List.mem_map.mp h
  exact ⟨r, (List.mem_filter.mp hr).1, rfl⟩

open Classical in
theorem matchingAccs_eq_nil_iff {rules : List CoreRule} {w : List Sym} :
    matchingAccs rules w = [] ↔ ∀ r ∈ rules, ¬ den r.re w := by
  unfold matchingAccs
  rw [List.map_eq_nil_iff, List.filter_eq_nil_iff]
  exact forall₂_congr fun _ _ => not_congr decide_eq_true_iff

open Classical in
theorem firstOK_eq_firstLang (cfg : Config σ τ ε) (ctxAt : Nat → Regex) (rest : List Nat) :
    ∀ accs : List Acc,
      (∀ a ∈ accs, ∀ i, a.ctx = some i → (ctxOK cfg i rest = true ↔ CtxLang (ctxAt i) rest)) →
      firstOK (fun i => ctxOK cfg i rest) accs = firstLang ctxAt rest accs := by
  intro accs
  induction accs with
  | nil => intro _; rfl
  | cons a more ih =>
    intro h
    unfold firstOK firstLang
    rw [ih fun b hb => h b (List.mem_cons_of_mem _ hb)]
    cases hc : a.ctx with
    | none => rfl
    | some i => exact ite_cond_congr (propext (h a List.mem_cons_self i hc))

theorem firstLang_nil (ctxAt : Nat → Regex) (rest : List Nat) : firstLang ctxAt rest [] = none := rfl

theorem cand_iff_langCand (cfg : Config σ τ ε) (e : Nat) (rules : List CoreRule) (ctxAt : Nat → Regex)
    (hreal : RealisesRules cfg.dfa e rules)
    (hctx : ∀ r ∈ rules, ∀ i, r.ctx = some i → ∀ rest, (ctxOK cfg i rest = true ↔ CtxLang (ctxAt i) rest))
    (heoi : ∀ s t, (cfg.dfa.st s).eoi ≠ some (.goto t))
    (iter : List Nat) (k a : Nat) (viaEoi : Bool) :
    Cand cfg e iter k a viaEoi ↔ LangCand rules ctxAt iter k a viaEoi := by
  have hfirst : ∀ (w : List Sym) (rest : List Nat),
      firstOK (fun i => ctxOK cfg i rest) (matchingAccs rules w) = firstLang ctxAt rest (matchingAccs rules w) := by
    intro w rest
    apply firstOK_eq_firstLang
    intro a ha i hi
    obtain ⟨r, hr, rfl⟩ := mem_matchingAccs ha
    exact hctx r hr i hi rest
  unfold Cand LangCand
  cases viaEoi with
  | false =>
    simp only [Bool.false_eq_true, if_false]
    have hw := hreal (iter.take k)
    constructor
    · rintro ⟨hk, c, hc, hsel⟩
      refine ⟨hk, ?_⟩
      rw [hc] at hw
      unfold selAt at hsel
      rw [hw.1, hfirst] at hsel
      exact hsel
    · rintro ⟨hk, hsel⟩
      refine ⟨hk, ?_⟩
      cases hc : reach cfg.dfa (.st e) (iter.take k) with
      | none =>
        rw [hc] at hw
        rw [hw.1, firstLang_nil] at hsel
        cases hsel
      | some c =>
        rw [hc] at hw
        refine ⟨c, rfl, ?_⟩
        unfold selAt
        rw [hw.1, hfirst]
        exact hsel
  | true =>
    simp only [if_true]
    constructor
    · rintro ⟨hk, c, hc, hkl, t, accs, hct, he, hsel⟩
      refine ⟨hk, hkl, ?_⟩
      have hw := hreal iter
      have htake : iter.take k = iter := by rw [hkl]; exact List.take_length
      rw [htake] at hc
      rw [hc] at hw
      subst hct
      have heo : Auto.eoi cfg.dfa (Cfg.st t) = some (Cfg.term accs) := by
        show (cfg.dfa.st t).eoi.map Target.toCfg = _
        rw [he]; rfl
      have h2 := hw.2
      rw [heo] at h2
      have h3 : accs = matchingAccs rules (iter.map Sym.ch ++ [Sym.eoi]) := h2
      subst h3
      rw [hfirst] at hsel
      exact hsel
    · rintro ⟨hk, hkl, hsel⟩
      have hw := hreal iter
      have htake : iter.take k = iter := by rw [hkl]; exact List.take_length
      cases hc : reach cfg.dfa (.st e) iter with
      | none =>
        rw [hc] at hw
        rw [hw.2, firstLang_nil] at hsel
        cases hsel
      | some c =>
        rw [hc] at hw
        refine ⟨hk, c, by rw [htake]; exact hc, hkl, ?_⟩
        cases c with
        | term l =>
          have h2 := hw.2
          have : Auto.eoi cfg.dfa (Cfg.term l) = none := rfl
          rw [this] at h2
          rw [h2, firstLang_nil] at hsel
          cases hsel
        | st t =>
          have h2 := hw.2
          have hE : Auto.eoi cfg.dfa (Cfg.st t) = (cfg.dfa.st t).eoi.map Target.toCfg := rfl
          rw [hE] at h2
          cases hx : (cfg.dfa.st t).eoi with
          | none =>
            rw [hx] at h2
            have h2' : matchingAccs rules (iter.map Sym.ch ++ [Sym.eoi]) = [] := h2
            rw [h2', firstLang_nil] at hsel
            cases hsel
          | some tr =>
            cases tr with
            | goto t' => exact absurd hx (heoi t t')
            | accept accs =>
              rw [hx] at h2
              have h3 : accs = matchingAccs rules (iter.map Sym.ch ++ [Sym.eoi]) := h2
              refine ⟨t, accs, rfl, hx, ?_⟩
              rw [h3, hfirst]
              exact hsel

end Lexgen
