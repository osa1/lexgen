import LexgenModel.Spec.WellFormed
import LexgenModel.Proofs.CompileLang
import LexgenModel.Proofs.CtxFn
import LexgenModel.Proofs.LangCand
/-!
# Right-context automata at the language level: `ctxDfa_lang` for one automaton, `compileLexer_ctxs`
for all those of a compiled definition

(The namespace is `CtxLangP`: `CtxLang` is the predicate of Spec/WellFormed.lean.)
-/

namespace Lexgen
namespace CtxLangP

def TailOK (w : List Sym) : Prop := ∀ i, w[i]? = some Sym.eoi → i + 1 = w.length

theorem tailOK_of_noEoi {w : List Sym} (h : Sym.eoi ∉ w) : TailOK w := by
  intro i hi
  exact absurd (List.mem_of_getElem? hi) h

theorem noEoi_map_ch (cs : List Nat) : Sym.eoi ∉ cs.map Sym.ch := by
  intro h
  obtain ⟨c, _, hc⟩ := List.mem_map.mp h
  cases hc

theorem noEoi_single (c : Nat) : Sym.eoi ∉ [Sym.ch c] :=
  noEoi_map_ch [c]

theorem noEoi_star {L : List Sym → Prop} (hL : ∀ w, L w → Sym.eoi ∉ w) {w : List Sym} (h : Star L w) :
    Sym.eoi ∉ w := by
  induction h with
  | nil => intro h; cases h
  | cons hu _ ih => exact fun h => (List.mem_append.mp h).elim (hL _ hu) ih

theorem den_noEoi (r : Regex) : eoiFree r → ∀ w, den r w → Sym.eoi ∉ w := by
  induction r with
  | var n => intro _ w hw; exact hw.elim
  | chr c =>
    intro _ w hw
    cases (hw : w = [Sym.ch c])
    exact noEoi_single c
  | str cs =>
    intro _ w hw
    rw [(hw : cs ≠ [] ∧ w = cs.map Sym.ch).2]
    exact noEoi_map_ch cs
  | star r ih =>
    intro hf w hw
    exact noEoi_star (ih hf) hw
  | plus r ih =>
    intro hf w hw
    obtain ⟨u, v, rfl, hu, hv⟩ := hw
    exact fun h => (List.mem_append.mp h).elim (ih hf u hu) (noEoi_star (ih hf) hv)
  | opt r ih =>
    intro hf w hw
    rcases hw with rfl | hw
    · intro h; cases h
    · exact ih hf w hw
  | cat a b iha ihb =>
    intro hf w hw
    obtain ⟨u, v, rfl, hu, hv⟩ := hw
    exact fun h => (List.mem_append.mp h).elim (iha hf.1 u hu) (ihb hf.2 v hv)
  | alt a b iha ihb =>
    intro hf w hw
    rcases hw with hw | hw
    · exact iha hf.1 w hw
    · exact ihb hf.2 w hw
  | any =>
    intro _ w hw
    obtain ⟨c, rfl⟩ := hw
    exact noEoi_single c
  | eoi => intro hf; exact hf.elim
  -- `builtin`, `set`, `diff`: one character of a class
  | _ =>
    intro _ w hw
    obtain ⟨c, rfl, _⟩ := hw
    exact noEoi_single c

theorem den_tailOK (r : Regex) : tailEoi r → ∀ w, den r w → TailOK w := by
  induction r with
  | opt r ih =>
    intro ht w hw
    rcases hw with rfl | hw
    · intro i hi; cases hi
    · exact ih ht w hw
  | cat a b _ ihb =>
    intro ht w hw
    obtain ⟨u, v, rfl, hu, hv⟩ := hw
    have hnu := den_noEoi a ht.1 u hu
    have hv' := ihb ht.2 v hv
    intro i hi
    by_cases hlt : i < u.length
    · rw [List.getElem?_append_left hlt] at hi
      exact absurd (List.mem_of_getElem? hi) hnu
    · rw [List.getElem?_append_right (Nat.le_of_not_lt hlt)] at hi
      rw [List.length_append, ← hv' _ hi, ← Nat.add_assoc, Nat.add_sub_cancel' (Nat.le_of_not_lt hlt)]
  | alt a b iha ihb =>
    intro ht w hw
    rcases hw with hw | hw
    · exact iha ht.1 w hw
    · exact ihb ht.2 w hw
  | eoi =>
    intro _ w hw
    cases (hw : w = [Sym.eoi])
    intro i hi
    cases i with
    | zero => rfl
    | succ i => cases hi
  -- for every other constructor `tailEoi` is `eoiFree`
  | _ =>
    intro ht w hw
    refine tailOK_of_noEoi (den_noEoi _ ?_ w hw)
    exact ht

theorem tailOK_replicate {cs : List Nat} {n : Nat} (h : TailOK (cs.map Sym.ch ++ List.replicate n Sym.eoi)) :
    n ≤ 1 := by
  cases n with
  | zero => omega
  | succ n =>
    have := h cs.length (by
      rw [List.getElem?_append_right (by rw [List.length_map]; exact Nat.le_refl _), List.length_map,
        Nat.sub_self]
      rfl)
    rw [List.length_append, List.length_map, List.length_replicate] at this
    omega

theorem reachSym_replicate_eoi (d : DFA Nat) (n : Nat) :
    ∀ s, reachSym d s (List.replicate n Sym.eoi) = eoiChain d n s := by
  induction n with
  | zero => intro s; rfl
  | succ n ih =>
    intro s
    simp only [List.replicate_succ, reachSym, eoiChain, stepD]
    cases (d.st s).eoi with
    | none => rfl
    | some t => exact ih t

theorem matchingAccs_single (cre : Regex) (w : List Sym) :
    matchingAccs [{ re := cre, ctx := none, value := 0 }] w ≠ [] ↔ den cre w := by
  rw [Ne, matchingAccs_eq_nil_iff, List.forall_mem_singleton]
  exact Classical.not_not

theorem buildNfa_single (cre : Regex) (nfa : NFA) (hn : NFA.new.addRegex cre none 0 = .ok nfa) :
    buildNfa [{ re := cre, ctx := none, value := 0 }] = .ok nfa := by
  unfold buildNfa
  rw [List.foldlM_cons]
  show (NFA.new.addRegex cre none 0 >>= fun n => List.foldlM _ n []) = .ok nfa
  rw [hn]
  rfl

theorem single_lang (cre : Regex) (hp : regexPiecesOK cre) (nfa : NFA)
    (hn : NFA.new.addRegex cre none 0 = .ok nfa) (d : DFA Nat) (hd : nfaToDfa nfa = some d) (w : List Sym) :
    (∃ t, reachSym d 0 w = some t ∧ (d.st t).accepting ≠ []) ↔ den cre w := by
  have key := ruleSet_lang [{ re := cre, ctx := none, value := 0 }] (List.forall_mem_singleton.2 hp) nfa
    (buildNfa_single cre nfa hn) d hd w
  rw [← matchingAccs_single cre w]
  cases hr : reachSym d 0 w with
  | none =>
    rw [hr] at key
    exact ⟨fun ⟨_, ht, _⟩ => (nomatch ht), fun h => absurd key h⟩
  | some t =>
    rw [hr] at key
    rw [← (key : (d.st t).accepting = _)]
    exact ⟨fun ⟨_, ht, ha⟩ => Option.some.inj ht ▸ ha, fun h => ⟨t, rfl, h⟩⟩

theorem take_ext_le (rest : List Nat) (j : Nat) (hj : j ≤ rest.length) :
    (ext rest).take j = (rest.take j).map Sym.ch := by
  unfold ext
  rw [List.take_append_of_le_length (by rw [List.length_map]; exact hj), List.map_take]

theorem take_ext_gt (rest : List Nat) (j : Nat) (hj : rest.length < j) :
    (ext rest).take j = rest.map Sym.ch ++ [Sym.eoi] := by
  unfold ext
  apply List.take_of_length_le
  rw [List.length_append, List.length_map, List.length_singleton]
  omega

end CtxLangP

open CtxLangP CompileLang in
/-- the automaton `new_right_ctx` builds for a right context accepts (in the sense of the generated context function `ctxRun`)
exactly when the context regex denotes some prefix of the rest of the input extended with the end-of-input symbol -/
theorem ctxDfa_lang (cre : Regex) (hp : regexPiecesOK cre) (ht : tailEoi cre) (nfa : NFA)
    (hn : NFA.new.addRegex cre none 0 = .ok nfa) (d : DFA Nat) (hd : nfaToDfa nfa = some d) (rest : List Nat) :
    ctxRun d 0 rest = true ↔ CtxLang cre rest := by
  rw [ctxRun_iff]
  have lang := single_lang cre hp nfa hn d hd
  constructor
  · rintro (⟨j, s, hj, hr, ha⟩ | ⟨s, n, t, hr, _, hc, ha⟩)
    · refine ⟨j, ?_⟩
      rw [take_ext_le rest j hj]
      apply (lang _).mp
      exact ⟨s, by rw [reachSym_ch]; exact hr, ha⟩
    · have hden : den cre (rest.map Sym.ch ++ List.replicate n Sym.eoi) := by
        apply (lang _).mp
        refine ⟨t, ?_, ha⟩
        rw [reachSym_append, reachSym_ch, hr, Option.bind_some, reachSym_replicate_eoi]
        exact hc
      have hn1 := tailOK_replicate (den_tailOK cre ht _ hden)
      cases n with
      | zero =>
        refine ⟨rest.length, ?_⟩
        rw [take_ext_le rest _ (Nat.le_refl _), List.take_length]
        rw [List.replicate_zero, List.append_nil] at hden
        exact hden
      | succ n =>
        cases Nat.le_zero.1 (Nat.le_of_succ_le_succ hn1)
        refine ⟨rest.length + 1, ?_⟩
        rw [take_ext_gt rest _ (Nat.lt_succ_self _)]
        exact hden
  · rintro ⟨j, hden⟩
    by_cases hj : j ≤ rest.length
    · rw [take_ext_le rest j hj] at hden
      obtain ⟨t, hr, ha⟩ := (lang _).mpr hden
      rw [reachSym_ch] at hr
      exact Or.inl ⟨j, t, hj, hr, ha⟩
    · rw [take_ext_gt rest j (Nat.lt_of_not_le hj)] at hden
      obtain ⟨t, hr, ha⟩ := (lang _).mpr hden
      rw [reachSym_ch_eoi] at hr
      cases hs : reachN d 0 rest with
      | none => rw [hs] at hr; cases hr
      | some s =>
        rw [hs, Option.bind_some] at hr
        have h0 : 0 < d.length := st_initial_lt (Subset.nfaToDfa_inRange hd).2
        refine Or.inr ⟨s, 1, t, hs, h0, ?_, ha⟩
        simp only [eoiChain, hr]

namespace CtxLangP
open CompileLang Static

def Good (d : DFA Nat) (cre : Regex) : Prop :=
  regexPiecesOK cre → tailEoi cre → ∀ rest, ctxRun d 0 rest = true ↔ CtxLang cre rest

theorem _root_.Lexgen.Subset.Rel₂.length_eq {α β : Type} {R : α → β → Prop} {l : List α} {m : List β}
    (h : Subset.Rel₂ R l m) : l.length = m.length := by
  induction h with
  | nil => rfl
  | cons _ _ ih => rw [List.length_cons, List.length_cons, ih]

theorem _root_.Lexgen.Subset.Rel₂.getD {α β : Type} {R : α → β → Prop} {l : List α} {m : List β}
    (h : Subset.Rel₂ R l m) (a : α) : ∀ j (hj : j < m.length), R (l.getD j a) m[j] := by
  induction h with
  | nil => intro j hj; cases hj
  | cons hg _ ih =>
    intro j hj
    cases j with
    | zero => exact hg
    | succ j => exact ih j (Nat.lt_of_succ_lt_succ hj)

theorem getD_append_mid (l ds t : List (DFA Nat)) {j : Nat} (hj : j < ds.length) :
    (l ++ ds ++ t).getD (l.length + j) [] = ds.getD j [] := by
  rw [List.getD_eq_getElem?_getD, List.getD_eq_getElem?_getD,
    List.getElem?_append_left (by rw [List.length_append]; exact Nat.add_lt_add_left hj _),
    List.getElem?_append_right (Nat.le_add_right _ _), Nat.add_sub_cancel_left]

theorem coreCtxs_binding (n : String) (re : Regex) (rest : List RuleOrBinding) (b : Bindings) :
    coreCtxs (.binding n re :: rest) b = coreCtxs rest (b ++ [(n, re)]) := by
  rw [coreCtxs]

theorem coreCtxs_rule_none {r : SingleRule} (rest : List RuleOrBinding) (b : Bindings) (h : r.ctx = none) :
    coreCtxs (.rule r :: rest) b = coreCtxs rest b := by
  rw [coreCtxs, h]

theorem coreCtxs_rule_some {r : SingleRule} {c c' : Regex} (rest : List RuleOrBinding) {b : Bindings}
    (h : r.ctx = some c) (hc : inlineVars b (b.length + 1) c = .ok c') :
    coreCtxs (.rule r :: rest) b = (coreCtxs rest b).map (c' :: ·) := by
  rw [coreCtxs, h]
  show (match inlineVars b (b.length + 1) c with | .error _ => none | .ok c' => _) = _
  rw [hc]

theorem coreCtxs_length (rs : List RuleOrBinding) (b : Bindings) (cres : List Regex)
    (h : coreCtxs rs b = some cres) : cres.length = ctxCount rs := by
  fun_induction coreCtxs rs b generalizing cres with
  | case1 => cases h; rfl
  | case2 _ _ _ _ ih => exact ih cres h
  | case3 _ _ _ hc ih =>
    rw [ctxCount_rule, hc]
    exact (ih cres h).trans (Nat.zero_add _).symm
  | case4 => cases h
  | case5 _ _ _ _ hc _ _ ih =>
    obtain ⟨l, hl, rfl⟩ := Option.map_eq_some_iff.1 h
    rw [ctxCount_rule, hc, List.length_cons, ih l hl]
    exact Nat.add_comm _ _

theorem compileSingleRule_ctx {n0 n1 : NFA} {r : SingleRule} {b : Bindings} {ctxs c1 : List (DFA Nat)}
    (h : compileSingleRule n0 r b ctxs = .ok (n1, c1)) :
    (r.ctx = none ∧ c1 = ctxs) ∨
    (∃ c c' d, r.ctx = some c ∧ inlineVars b (b.length + 1) c = .ok c' ∧ c1 = ctxs ++ [d] ∧ Good d c') := by
  obtain ⟨_, _, ⟨hc, rfl, _⟩ | ⟨c, i, hc, hn, _⟩⟩ := compileSingleRule_eq_ok.1 h
  · exact Or.inl ⟨hc, rfl⟩
  · obtain ⟨c', nfa, d, hin, hadd, hd, rfl, _⟩ := newRightCtx_eq_ok.1 hn
    exact Or.inr ⟨c, c', d, hc, hin, rfl, fun hp ht => ctxDfa_lang c' hp ht nfa hadd d hd⟩

theorem fold_match (items : List RuleOrBinding) : ∀ (acc acc' : NFA × Bindings × List (DFA Nat)),
    items.foldlM rsStep acc = .ok acc' →
    ∃ cres ds, coreCtxs items acc.2.1 = some cres ∧ acc'.2.2 = acc.2.2 ++ ds ∧ Subset.Rel₂ Good ds cres := by
  induction items with
  | nil =>
    intro acc acc' h
    cases h
    exact ⟨[], [], rfl, (List.append_nil _).symm, .nil⟩
  | cons item rest ih =>
    intro acc acc' h
    rw [List.foldlM_cons] at h
    obtain ⟨acc1, h1, h2⟩ := bind_eq_ok.1 h
    obtain ⟨cres, ds, hc, he, hm⟩ := ih _ _ h2
    cases item with
    | binding n re =>
      obtain ⟨_, rfl⟩ := rsStep_binding_eq_ok.1 h1
      exact ⟨cres, ds, (coreCtxs_binding ..).trans hc, he, hm⟩
    | rule r =>
      obtain ⟨n1, c1, hr, rfl⟩ := rsStep_rule_eq_ok.1 h1
      rcases compileSingleRule_ctx hr with ⟨hctx, rfl⟩ | ⟨c, c', d, hctx, hin, rfl, hg⟩
      · exact ⟨cres, ds, (coreCtxs_rule_none _ _ hctx).trans hc, he, hm⟩
      · exact ⟨c' :: cres, d :: ds, (coreCtxs_rule_some _ hctx hin).trans (congrArg _ hc),
          he.trans (List.append_assoc ..), .cons hg hm⟩

theorem compileRuleSet_match (items : List RuleOrBinding) (b : Bindings) (ctxs : List (DFA Nat)) (d : DFA Nat)
    (ctxs' : List (DFA Nat)) (h : compileRuleSet items b ctxs = .ok (d, ctxs')) :
    ∃ cres ds, coreCtxs items b = some cres ∧ ctxs' = ctxs ++ ds ∧ Subset.Rel₂ Good ds cres := by
  obtain ⟨_, _, hf, _⟩ := compileRuleSet_eq_ok.1 h
  exact fold_match items _ _ hf

end CtxLangP

open CompileLang in
theorem compile_block {items : LexerDef} {c : Compiled} (h : compileLexer items = .ok c) {x : Scoped}
    (hx : x ∈ allRuleSets items) :
    ∃ e0 dR, Block c.full c.ctxs e0 dR x ∧ if hasRuleSets items = true then (x.1, e0) ∈ c.entries0 else e0 = 0 := by
  obtain ⟨_, _, hnamed, hunnamed, _⟩ := compile_blocks h
  cases hrs : hasRuleSets items with
  | true =>
    rw [allRuleSets_named hrs] at hx
    obtain ⟨e0, dR, he, hB⟩ := hnamed _ hx
    exact ⟨e0, dR, hB, he⟩
  | false =>
    rw [allRuleSets_unnamed hrs] at hx
    cases List.mem_singleton.1 hx
    obtain ⟨_, dR, hB⟩ := hunnamed hrs
    exact ⟨0, dR, hB, rfl⟩

open CtxLangP CompileLang Static in
/-- every right context of every rule set of a definition the model compiles is realised by the right-context automaton with the
number the macro assigns to it -/
theorem compileLexer_ctxs (items : LexerDef) (c : Compiled) (h : compileLexer items = .ok c)
    (name : String) (rs : List RuleOrBinding) (b : Bindings) (k : Nat)
    (hmem : (name, rs, b, k) ∈ allRuleSets items) :
    ∃ cres, coreCtxs rs b = some cres ∧ k + cres.length ≤ c.ctxs.length ∧
      ∀ j (hj : j < cres.length), regexPiecesOK cres[j] → tailEoi cres[j] →
        ∀ rest, ctxRun (c.ctxs.getD (k + j) []) 0 rest = true ↔ CtxLang cres[j] rest := by
  obtain ⟨_, dR, ⟨cpre, ctxs', hk, hc, ⟨t, ht⟩, _⟩, _⟩ := compile_block h hmem
  obtain ⟨cres, ds, hcore, rfl, hm⟩ := compileRuleSet_match rs b cpre dR ctxs' hc
  cases (hk : cpre.length = k)
  refine ⟨cres, hcore, ?_, fun j hj => ?_⟩
  · rw [← ht, List.length_append, List.length_append, hm.length_eq]
    exact Nat.le_add_right _ _
  · rw [← ht, getD_append_mid _ _ _ (hm.length_eq ▸ hj)]
    exact hm.getD [] j hj

end Lexgen
