import LexgenModel.Spec.Compile
import LexgenModel.Generated.TablesCheck
import LexgenModel.Proofs.TableGen
import LexgenModel.Proofs.ExceptInv
/-!
# Class-expression evaluation (`regex_to_range_map`) meets its specification

`regexToRangeMap e = .ok m` implies that `m` is a well-formed range map whose domain is exactly
`classDen e`; the built-in tables are well-formed because they are canonical (kernel-checked in
`Generated/TablesCheck.lean`).
-/

namespace Lexgen

namespace ClassEval
open RangeMap

theorem isSome_diffOpt {α β : Type} (a : Option α) (b : Option β) :
    (diffOpt a b).isSome = true ↔ a.isSome = true ∧ ¬ b.isSome = true := by
  unfold diffOpt
  by_cases hb : b.isSome = true
  · rw [if_pos hb]; exact ⟨nofun, fun h => absurd hb h.2⟩
  · rw [if_neg hb]; exact ⟨fun h => ⟨h, hb⟩, And.left⟩

theorem insert_isSome (m : RangeMap Unit) (s e : Nat) (hwf : WF m) (hse : s ≤ e) :
    WF (RangeMap.insert unitMerge m s e ()) ∧
    ∀ x, (lookup (RangeMap.insert unitMerge m s e ()) x).isSome = true ↔
      ((lookup m x).isSome = true ∨ (s ≤ x ∧ x ≤ e)) := by
  have ⟨w, lk⟩ := insert_spec unitMerge m s e () hwf hse
  refine ⟨w, fun x => ?_⟩
  rw [lk x, isSome_mergeOpt]
  simp only [Bool.or_eq_true, decide_eq_true_eq]

def itemDen (it : CharOrRange) (x : Nat) : Prop :=
  match it with | .chr c => x = c | .rng s e => s ≤ x ∧ x ≤ e

def itemOK (it : CharOrRange) : Prop :=
  match it with | .chr _ => True | .rng s e => s ≤ e

/-- the body of the loop over set items -/
def insertItem (m : RangeMap Unit) (item : CharOrRange) : RangeMap Unit :=
  match item with
  | .chr c => RangeMap.insert unitMerge m c c ()
  | .rng s e => RangeMap.insert unitMerge m s e ()

theorem insertItem_spec (m : RangeMap Unit) (it : CharOrRange) (hwf : WF m) (hok : itemOK it) :
    WF (insertItem m it) ∧
    ∀ x, (lookup (insertItem m it) x).isSome = true ↔ ((lookup m x).isSome = true ∨ itemDen it x) := by
  cases it with
  | chr c =>
    have ⟨w, lk⟩ := insert_isSome m c c hwf (Nat.le_refl _)
    exact ⟨w, fun x => (lk x).trans
      (or_congr_right ⟨fun h => Nat.le_antisymm h.2 h.1, fun h => h ▸ ⟨Nat.le_refl _, Nat.le_refl _⟩⟩)⟩
  | rng s e => exact insert_isSome m s e hwf hok

theorem insertItem_nil_spec (it : CharOrRange) (hok : itemOK it) :
    WF (insertItem [] it) ∧ ∀ x, (lookup (insertItem [] it) x).isSome = true ↔ itemDen it x :=
  have ⟨w, lk⟩ := insertItem_spec [] it trivial hok
  ⟨w, fun x => (lk x).trans (or_iff_right Bool.false_ne_true)⟩

theorem foldl_spec (items : List CharOrRange) (acc : RangeMap Unit) (hok : ∀ it ∈ items, itemOK it)
    (hwf : WF acc) :
    WF (items.foldl insertItem acc) ∧
    ∀ x, (lookup (items.foldl insertItem acc) x).isSome = true ↔
      ((lookup acc x).isSome = true ∨ ∃ it ∈ items, itemDen it x) := by
  induction items generalizing acc with
  | nil => exact ⟨hwf, fun x => ⟨Or.inl, fun h => h.resolve_right fun ⟨_, hm, _⟩ => nomatch hm⟩⟩
  | cons it rest ih =>
    have ⟨w, lk⟩ := insertItem_spec acc it hwf (hok it List.mem_cons_self)
    have ⟨w', lk'⟩ := ih (insertItem acc it) (fun i hi => hok i (List.mem_cons_of_mem _ hi)) w
    refine ⟨w', fun x => ?_⟩
    rw [List.foldl_cons, lk' x, lk x, or_assoc, exists_mem_cons]

theorem lookup_builtinRangeMap (rs : List (Nat × Nat)) (x : Nat) :
    (lookup (builtinRangeMap rs) x).isSome = true ↔ ∃ p ∈ rs, p.1 ≤ x ∧ x ≤ p.2 := by
  rw [lookup_isSome_iff]
  constructor
  · rintro ⟨r, hr, h⟩
    obtain ⟨p, hp, rfl⟩ := List.mem_map.mp hr
    exact ⟨p, hp, h⟩
  · rintro ⟨p, hp, h⟩
    exact ⟨_, List.mem_map_of_mem hp, h⟩

theorem wfFrom_of_canonical {s e : Nat} {rest : List (Nat × Nat)} (h : canonicalRanges ((s, e) :: rest) = true) :
    WFFrom s (builtinRangeMap ((s, e) :: rest)) := by
  induction rest generalizing s e with
  | nil =>
    simp only [canonicalRanges, Bool.and_eq_true, decide_eq_true_eq] at h
    exact ⟨Nat.le_refl s, h.1.2, trivial⟩
  | cons r rest ih =>
    obtain ⟨s2, e2⟩ := r
    simp only [canonicalRanges, Bool.and_eq_true, decide_eq_true_eq] at h
    exact ⟨Nat.le_refl s, h.1.1.2, (ih h.2).mono (Nat.lt_trans (lt_nextScalar e) h.1.2)⟩

end ClassEval

open RangeMap ClassEval

theorem wf_of_canonical (rs : List (Nat × Nat)) (h : canonicalRanges rs = true) :
    RangeMap.WF (builtinRangeMap rs) := by
  cases rs with
  | nil => trivial
  | cons r rest => exact (wfFrom_of_canonical h).mono (Nat.zero_le _)

/-- the current built-in tables are well-formed (from the regenerated, kernel-checked obligation) -/
theorem builtinsWF : BuiltinsWF := by
  intro n rs h
  obtain ⟨ent, hf, rfl⟩ := Option.map_eq_some_iff.mp h
  exact wf_of_canonical _
    (List.all_eq_true.mp Generated.builtins_all_canonical ent (List.mem_of_find?_eq_some hf))

/-- Evaluating a class expression yields a well-formed class denoting exactly `classDen`.
`BuiltinsWF` stays a hypothesis, discharged by `builtinsWF` at the uses: the tables are regenerated
from `/repo`, and this proof does not depend on what they contain. -/
theorem regexToRangeMap_spec (hB : BuiltinsWF) (e : Regex) (m : RangeMap Unit)
    (h : regexToRangeMap e = .ok m) (hp : classPiecesOK e) :
    RangeMap.WF m ∧ ∀ x, (RangeMap.lookup m x).isSome = true ↔ classDen e x := by
  induction e generalizing m with
  | builtin n =>
    simp only [regexToRangeMap] at h
    cases hb : builtinRanges n with
    | none => rw [hb] at h; cases h
    | some rs =>
      rw [hb] at h
      cases Except.ok.inj h
      exact ⟨hB n rs hb, fun x => (lookup_builtinRangeMap rs x).trans
        ⟨fun hx => ⟨rs, hb, hx⟩, fun ⟨_, hb', hx⟩ => Option.some.inj (hb.symm.trans hb') ▸ hx⟩⟩
  | chr c =>
    cases Except.ok.inj h
    exact insertItem_nil_spec (.chr c) trivial
  | set items =>
    cases Except.ok.inj h
    have ⟨w, lk⟩ := foldl_spec items [] hp trivial
    exact ⟨w, fun x => (lk x).trans (or_iff_right Bool.false_ne_true)⟩
  | alt a b iha ihb =>
    obtain ⟨m1, h1, h⟩ := (bind_eq_ok (x := regexToRangeMap a)).mp h
    obtain ⟨m2, h2, h⟩ := bind_eq_ok.mp h
    cases Except.ok.inj h
    have ⟨w1, l1⟩ := iha m1 h1 hp.1
    have ⟨w2, l2⟩ := ihb m2 h2 hp.2
    have ⟨w, lk⟩ := insertRanges_spec unitMerge m1 m2 0 w1 w2
    refine ⟨w, fun x => ?_⟩
    rw [lk x, isSome_mergeOpt2, Bool.or_eq_true, l1 x, l2 x]
    rfl
  | any =>
    cases Except.ok.inj h
    have ⟨w, lk⟩ := insertItem_nil_spec (.rng 0 charMax) (Nat.zero_le _)
    exact ⟨w, fun x => (lk x).trans (and_iff_right (Nat.zero_le x))⟩
  | diff a b iha ihb =>
    obtain ⟨m1, h1, h⟩ := (bind_eq_ok (x := regexToRangeMap a)).mp h
    obtain ⟨m2, h2, h⟩ := bind_eq_ok.mp h
    cases Except.ok.inj h
    have ⟨w1, l1⟩ := iha m1 h1 hp.1
    have ⟨w2, l2⟩ := ihb m2 h2 hp.2
    have ⟨w, lk⟩ := removeRanges_spec m1 m2 0 0 w1 w2
    refine ⟨w, fun x => ?_⟩
    rw [lk x]
    exact (isSome_diffOpt _ _).trans (and_congr (l1 x) (not_congr (l2 x)))
  | _ => cases h

end Lexgen
