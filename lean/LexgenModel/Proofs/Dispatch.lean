import LexgenModel.Model.Codegen
import LexgenModel.Spec.Scan
/-!
# Index arithmetic of the state renumbering done by code generation

States that are inlined at their transition sites get no `match self.0.__state` arm; the remaining
states are renumbered consecutively, and the arm with the largest number gets the pattern `_`.
This file proves that the number stored in `__state` for a state that has an arm selects exactly
the arm holding that state's code — for ANY set `inl` of inlined states that is strictly ascending,
within range and free of initial states (`InlOK`). The macro's current policy (`isInlined`:
not initial, exactly one predecessor, reached from it through exactly one arm) is one such set
(`inlOK_inlinedStates`).
-/
namespace Lexgen

def hasArm (inl : List Nat) (s : Nat) : Bool := !inl.contains s

namespace Dispatch

theorem mem_inlinedStates (d : DFA Trans) (i : Nat) :
    i ∈ inlinedStates d ↔ i < d.length ∧ isInlined d i = true := by
  unfold inlinedStates
  rw [List.mem_filter, List.mem_range]

theorem mem_inl_iff (inl : List Nat) (i : Nat) : i ∈ inl ↔ hasArm inl i = false := by
  unfold hasArm
  simp

theorem not_mem_of_hasArm {inl : List Nat} {s : Nat} (h : hasArm inl s = true) : s ∉ inl :=
  fun hm => nomatch h.symm.trans ((mem_inl_iff inl s).mp hm)

end Dispatch

open Dispatch

theorem isInlined_of_initial (d : DFA Trans) (i : Nat) (h : (d.st i).initial = true) :
    isInlined d i = false := by
  unfold isInlined
  rw [h]
  rfl

theorem hasArm_of_not_inlinedAt (inl : List Nat) (t : Nat) (h : inlinedAt inl t = false) :
    hasArm inl t = true := by
  unfold inlinedAt at h
  unfold hasArm
  rw [h]
  rfl

theorem hasArm_of_initial (d : DFA Trans) (inl : List Nat) (hI : InlOK d inl) (i : Nat)
    (h : (d.st i).initial = true) : hasArm inl i = true :=
  Bool.of_not_eq_false fun hf => nomatch h.symm.trans (hI.2 i ((mem_inl_iff inl i).mpr hf)).2

theorem inlOK_inlinedStates (d : DFA Trans) : InlOK d (inlinedStates d) := by
  refine ⟨List.pairwise_lt_range.filter _, fun i hi => ?_⟩
  have hi' := (mem_inlinedStates d i).mp hi
  exact ⟨hi'.1, Bool.eq_false_iff.mpr fun hini => nomatch (isInlined_of_initial d i hini).symm.trans hi'.2⟩

theorem ascending_pairwise : ∀ (l : List Nat), ascending l = true → l.Pairwise (· < ·)
  | [], _ => List.Pairwise.nil
  | [a], _ => by simp
  | a :: b :: rest, h => by
    simp only [ascending, Bool.and_eq_true, decide_eq_true_eq] at h
    have ih := ascending_pairwise (b :: rest) h.2
    exact List.Pairwise.cons (List.forall_mem_cons.2
      ⟨h.1, fun x hx => Nat.lt_trans h.1 ((List.pairwise_cons.1 ih).1 x hx)⟩) ih

theorem inlOK_sound (d : DFA Trans) (inl : List Nat) (h : inlOK d inl = true) : InlOK d inl := by
  simp only [inlOK, Bool.and_eq_true] at h
  refine ⟨ascending_pairwise inl h.1, ?_⟩
  intro i hi
  have := (List.all_eq_true.1 h.2) i hi
  simp only [Bool.and_eq_true, decide_eq_true_eq, Bool.not_eq_true'] at this
  exact this

namespace Dispatch

theorem length_filter_add {α : Type} (p : α → Bool) (l : List α) :
    (l.filter p).length + (l.filter fun x => !p x).length = l.length := by
  induction l with
  | nil => rfl
  | cons x xs ih =>
    rw [List.filter_cons, List.filter_cons]
    cases p x
    · exact congrArg (· + 1) ih
    · exact (Nat.succ_add _ _).trans (congrArg (· + 1) ih)

theorem length_add_le_of_pairwise_lt : ∀ (l : List Nat) (a b : Nat), a ≤ b → l.Pairwise (· < ·) →
    (∀ x ∈ l, a ≤ x ∧ x < b) → l.length + a ≤ b
  | [], _, _, hab, _, _ => (Nat.zero_add _).symm ▸ hab
  | x :: xs, a, b, _, hp, hb => by
    have hp' := List.pairwise_cons.1 hp
    have hx := hb x List.mem_cons_self
    have ih := length_add_le_of_pairwise_lt xs (x + 1) b hx.2 hp'.2
      fun y hy => ⟨hp'.1 y hy, (hb y (List.mem_cons_of_mem _ hy)).2⟩
    calc xs.length + 1 + a
      _ = xs.length + (a + 1) := by rw [Nat.add_assoc, Nat.add_comm 1 a]
      _ ≤ xs.length + (x + 1) := Nat.add_le_add_left (Nat.succ_le_succ hx.1) _
      _ ≤ b := ih

/-- Between two states the first of which keeps its arm, fewer states are inlined than there are
states: the inlined states in `[s, t)` lie in `[s + 1, t)`. -/
theorem renumber_lt {inl : List Nat} (hp : inl.Pairwise (· < ·)) {s t : Nat} (hs : s ∉ inl) (hst : s < t) :
    renumber inl s < renumber inl t := by
  -- the inlined states below `t` are those below `s` and those in `[s, t)`
  have hsplit := length_filter_add (· < s) (inl.filter (· < t))
  rw [List.filter_filter, List.filter_congr (q := (· < s)) fun x _ =>
    Bool.and_eq_left_iff_imp.mpr fun h => decide_eq_true (Nat.lt_trans (of_decide_eq_true h) hst)] at hsplit
  have hlo : (inl.filter (· < s)).length ≤ s :=
    length_add_le_of_pairwise_lt _ 0 s (Nat.zero_le s) (hp.filter _) fun x hx =>
      ⟨Nat.zero_le x, of_decide_eq_true (List.mem_filter.1 hx).2⟩
  have hmid := length_add_le_of_pairwise_lt _ (s + 1) t hst ((hp.filter (· < t)).filter _) fun x hx => by
    have h1 := List.mem_filter.1 hx
    have h2 := List.mem_filter.1 h1.1
    exact ⟨Nat.lt_of_le_of_ne (Nat.le_of_not_lt (of_decide_eq_false ((Bool.not_eq_true' _).mp h1.2)))
      fun e => hs (e ▸ h2.1), of_decide_eq_true h2.2⟩
  unfold renumber
  rw [Nat.lt_sub_iff_add_lt, ← hsplit, ← Nat.add_assoc, Nat.sub_add_cancel hlo, Nat.add_comm]
  exact hmid

/-- In a list of arms whose numbers ascend, none above `last`, where exactly the arm numbered
`last` has the pattern `_`, the number of an arm selects that arm. -/
theorem dispatch_map {key : Nat → Nat} {last : Nat} :
    ∀ (l : List Nat) (s : Nat), l.Pairwise (fun i j => key i < key j) → s ∈ l → (∀ i ∈ l, key i ≤ last) →
      dispatch (l.map fun i => (if key i == last then Pat.wild else Pat.num (key i), i)) (key s) = some s
  | x :: xs, s, hp, hs, hl => by
    have hp' := List.pairwise_cons.1 hp
    -- numbers ascend along the list, so `s` has a number `≤ key x` only if it is `x` itself
    have hx : key s ≤ key x → x = s := fun hle =>
      (List.mem_cons.1 hs).elim Eq.symm fun hs => absurd (hp'.1 s hs) (Nat.not_lt_of_le hle)
    rw [List.map_cons]
    by_cases hw : key x = last
    · rw [beq_iff_eq.mpr hw, if_pos rfl, dispatch, hx (hw ▸ hl s hs)]
    · rw [beq_eq_false_iff_ne.mpr hw, if_neg Bool.false_ne_true, dispatch]
      by_cases hk : key x = key s
      · rw [if_pos hk, hx (Nat.le_of_eq hk.symm)]
      · rw [if_neg hk]
        have hs' : s ∈ xs := (List.mem_cons.1 hs).resolve_left fun e => hk (e ▸ rfl)
        exact dispatch_map xs s hp'.2 hs' fun i hi => hl i (List.mem_cons_of_mem _ hi)

end Dispatch

set_option linter.unusedVariables false in
/-- of the hypotheses, `renumber_lt` needs only the order of `inl`, `s < t` and the arm of `s` -/
theorem renumber_strictMono (d : DFA Trans) (inl : List Nat) (hI : InlOK d inl) (s t : Nat)
    (hs : s < d.length) (ht : t < d.length) (hst : s < t) (as : hasArm inl s = true) (at_ : hasArm inl t = true) :
    renumber inl s < renumber inl t :=
  renumber_lt hI.1 (not_mem_of_hasArm as) hst

theorem renumber_lt_arms (d : DFA Trans) (inl : List Nat) (hI : InlOK d inl) (s : Nat) (hs : s < d.length)
    (as : hasArm inl s = true) :
    renumber inl s < d.length - inl.length := by
  -- `d.length - inl.length` is what `renumber` would give the state after the last
  have hall : inl.filter (· < d.length) = inl :=
    List.filter_eq_self.mpr fun i hi => decide_eq_true (hI.2 i hi).1
  have := renumber_lt hI.1 (not_mem_of_hasArm as) hs
  unfold renumber at this
  rwa [hall] at this

theorem dispatch_correct (d : DFA Trans) (inl : List Nat) (hI : InlOK d inl) (s : Nat) (hs : s < d.length)
    (as : hasArm inl s = true) :
    dispatch (stateArms d inl) (renumber inl s) = some s := by
  have harm : ∀ {i}, i ∈ (List.range d.length).filter (hasArm inl) → i < d.length ∧ hasArm inl i = true :=
    fun hi => ⟨List.mem_range.1 (List.mem_filter.1 hi).1, (List.mem_filter.1 hi).2⟩
  refine dispatch_map (key := renumber inl) _ s ?_ (List.mem_filter.2 ⟨List.mem_range.2 hs, as⟩) fun i hi => ?_
  · exact (List.pairwise_lt_range.filter _).imp_of_mem fun hi hj hij =>
      renumber_strictMono d inl hI _ _ (harm hi).1 (harm hj).1 hij (harm hi).2 (harm hj).2
  · exact Nat.le_sub_one_of_lt (renumber_lt_arms d inl hI i (harm hi).1 (harm hi).2)

/-- `switch` stores the number whose arm is the entry state of the named rule set. -/
theorem switch_correct (d : DFA Trans) (inl : List Nat) (hI : InlOK d inl) (entries : List (String × Nat))
    (name : String) (e : Nat)
    (he : (name, e) ∈ entries) (hlt : e < d.length) (hini : (d.st e).initial = true) :
    ∃ n, (name, n) ∈ switchTable inl entries ∧ dispatch (stateArms d inl) n = some e := by
  refine ⟨renumber inl e, ?_, ?_⟩
  · unfold switchTable
    exact List.mem_map.2 ⟨(name, e), he, rfl⟩
  · exact dispatch_correct d inl hI e hlt (hasArm_of_initial d inl hI e hini)

/-- state 0 initial, state 1 inlined (single predecessor 0, reached through exactly one arm),
state 2 with two predecessors, state 3 initial (gets the `_` arm) -/
def exampleDfa : DFA Trans :=
  [ { initial := true, chars := [(97, .goto 1), (98, .goto 2)] },
    { preds := [0], chars := [(98, .goto 2)] },
    { preds := [0, 1] },
    { initial := true } ]

example : InlOK exampleDfa (inlinedStates exampleDfa) := inlOK_inlinedStates exampleDfa

/-- a different policy ("inline only leaf states": state 2 has no successors) is just as good -/
example : inlOK exampleDfa [2] = true := rfl

example : stateArms exampleDfa [2] = [(Pat.num 0, 0), (Pat.num 1, 1), (Pat.wild, 3)] := rfl

example : dispatch (stateArms exampleDfa [2]) (renumber [2] 3) = some 3 :=
  dispatch_correct exampleDfa [2] (inlOK_sound _ _ (by decide)) 3 (by decide) (by decide)

example : inlinedStates exampleDfa = [1] := rfl

/-- a single predecessor is not enough: state 1 is reached from state 0 through two arms
(a character arm and a range arm), so it keeps its own arm -/
def exampleDfaTwoSites : DFA Trans :=
  [ { initial := true, chars := [(97, .goto 1)], ranges := [(48, 57, .goto 1)] },
    { preds := [0] } ]

example : inlinedStates exampleDfaTwoSites = [] := rfl

example : stateArms exampleDfaTwoSites (inlinedStates exampleDfaTwoSites) = [(Pat.num 0, 0), (Pat.wild, 1)] := rfl

example : dispatch (stateArms exampleDfa (inlinedStates exampleDfa)) (renumber (inlinedStates exampleDfa) 2) = some 2 := rfl

example : stateArms exampleDfa (inlinedStates exampleDfa) = [(Pat.num 0, 0), (Pat.num 1, 2), (Pat.wild, 3)] := rfl

end Lexgen
