import LexgenModel.Proofs.NextSpec
/-!
# Protocol of `Iterator::next`: fused end, boundary invariant, termination, progress

For a well-formed machine (`MachineOK`) and a lexer state at a lexeme boundary (`Ready`), one call
of `next()` terminates within the fuel `|iter| + 2`, returns in a boundary state again, and every
returned item accounts for at least one character or for the end-of-input event.
-/
namespace Lexgen

variable {σ τ ε : Type}

theorem next_done (cfg : Config σ τ ε) (st : LState σ) (h : st.done = true) : next cfg st = some (none, st) := by
  show nextLoop cfg (st.iter.length + 1 + 1) st = _
  rw [nextLoop_succ, h]
  rfl

namespace NextProtocol

def SavedOK (it0 : List Nat) (l : Option Saved) : Prop :=
  ∀ sv, l = some sv → ∃ k, sv.iter = it0.drop k ∧ 0 < k ∧ k ≤ it0.length

/-- lexer state at a point of the scan where it may stop -/
structure PosOK (it0 : List Nat) (i0 : Nat) (st : LState σ) : Prop where
  initial : st.initial = i0
  saved : SavedOK it0 st.last
  iter : ∃ k, st.iter = it0.drop k ∧ k ≤ it0.length ∧ (0 < k ∨ st.done = true)

/-- lexer state handed to a semantic action -/
structure ActOK (it0 : List Nat) (i0 : Nat) (st : LState σ) : Prop where
  last : st.last = none
  initial : st.initial = i0
  iter : ∃ k, st.iter = it0.drop k ∧ k ≤ it0.length ∧ (0 < k ∨ st.done = true)

structure ErrOK (it0 : List Nat) (st : LState σ) : Prop where
  state : st.state = 0
  initial : st.initial = 0
  span : st.curStart = st.curEnd
  last : st.last = none
  iter : ∃ k, st.iter = it0.drop k ∧ k ≤ it0.length ∧ (0 < k ∨ st.done = true)

structure FinOK (q0 i0 : Nat) (st : LState σ) : Prop where
  last : st.last = none
  state : st.state = q0
  initial : st.initial = i0

structure RetOK (cfg : Config σ τ ε) (st : LState σ) (item : Option (Item τ ε)) (st' : LState σ) : Prop where
  ready : Ready cfg st'
  iter : ∀ x, item = some x → ∃ k, st'.iter = st.iter.drop k ∧ (0 < k ∨ st'.done = true)
  invalid : ∀ l, item = some (.invalid l) →
    st'.state = 0 ∧ st'.initial = 0 ∧ st'.curStart = st'.curEnd ∧ st'.last = none

/-- One call from a boundary state: the state is a boundary state again; the iterator has lost
`k ≤ |iter|` characters, at least one (or the end of input was handled) if an item is returned; `None`
is only returned with the end of input handled; an `InvalidToken` leaves `Init` with an empty match. -/
theorem ok_of_spec {cfg : Config σ τ ε} (hm : MachineOK cfg) {st : LState σ}
    {r : Option (Item τ ε) × LState σ} (h : NextSpec cfg st r) : Ready cfg st →
    Ready cfg r.2 ∧
    (∃ k, r.2.iter = st.iter.drop k ∧ k ≤ st.iter.length ∧ ∀ x, r.1 = some x → 0 < k ∨ r.2.done = true) ∧
    (r.1 = none → r.2.done = true) ∧
    ∀ l, r.1 = some (.invalid l) → r.2.state = 0 ∧ r.2.initial = 0 ∧ r.2.curStart = r.2.curEnd ∧ r.2.last = none := by
  induction h with
  | done hd => exact fun hr => ⟨hr, ⟨0, rfl, Nat.zero_le _, fun x h => (by cases h)⟩, fun _ => hd, fun l h => (by cases h)⟩
  | @ret st s k a e item st' _ hs hb hc =>
    intro hr
    obtain ⟨he, hst⟩ := ready_arm hm hr hs
    obtain ⟨rfl, cs, _, hitem⟩ := callAction_ret hc
    refine ⟨callSt_ready cfg _ _ _ rfl ⟨s, he, hr.2.1 ▸ hst⟩,
      ⟨k, rfl, hb.1.1, fun _ _ => hb.progress (isEntry_props cfg hm s he).2.2⟩, fun h => ?_, fun l h => ?_⟩
    all_goals rcases hitem with ⟨t, rfl⟩ | ⟨x, rfl⟩ <;> cases h
  | @cont st s k a e st1 r _ hs hb hc _ ih =>
    intro hr
    have hr1 := ready_of_cont hm hr hs hc
    obtain ⟨_, rfl⟩ := callAction_cont hc
    obtain ⟨h1, ⟨k2, hk2, hle2, hp⟩, h3, h4⟩ := ih hr1
    have hle : k ≤ st.iter.length := hb.1.1
    have hle2' : k2 ≤ (st.iter.drop k).length := hle2
    rw [List.length_drop] at hle2'
    refine ⟨h1, ⟨k + k2, by rw [hk2]; exact List.drop_drop .., Nat.add_le_of_le_sub' hle hle2', fun x hx => ?_⟩, h3, h4⟩
    exact (hp x hx).imp (Nat.add_pos_right k) id
  | @invalid st s =>
    obtain ⟨k, hle, hp, _, hk, _⟩ := errSt_advance cfg s st
    exact fun _ => ⟨⟨rfl, rfl, 0, Or.inl rfl, (renumber_zero _).symm⟩, ⟨k, hk, hle, fun _ _ => hp⟩,
      fun h => (by cases h), fun _ _ => ⟨rfl, rfl, rfl, rfl⟩⟩
  | eof => exact fun hr => ⟨hr, ⟨0, rfl, Nat.zero_le _, fun x h => (by cases h)⟩, fun _ => rfl, fun l h => (by cases h)⟩

theorem next_ok (cfg : Config σ τ ε) (hm : MachineOK cfg) (st : LState σ) (hr : Ready cfg st)
    (item : Option (Item τ ε)) (st' : LState σ) (h : next cfg st = some (item, st')) : RetOK cfg st item st' := by
  obtain ⟨h1, ⟨k, hk, _, hp⟩, _, h4⟩ := ok_of_spec hm (next_spec hm hr.1 h) hr
  exact ⟨h1, fun x hx => ⟨k, hk, hp x hx⟩, h4⟩

end NextProtocol

open NextProtocol

theorem next_ready (cfg : Config σ τ ε) (hm : MachineOK cfg) (st : LState σ) (hr : Ready cfg st)
    (item : Option (Item τ ε)) (st' : LState σ) (h : next cfg st = some (item, st')) : Ready cfg st' :=
  (next_ok cfg hm st hr item st' h).ready

theorem next_total (cfg : Config σ τ ε) (hm : MachineOK cfg) (st : LState σ) (hr : Ready cfg st) :
    ∃ r, next cfg st = some r :=
  nextLoop_total hm _ st hr (by omega) (fun _ => by omega)

theorem next_progress (cfg : Config σ τ ε) (hm : MachineOK cfg) (st : LState σ) (hr : Ready cfg st)
    (item : Item τ ε) (st' : LState σ) (h : next cfg st = some (some item, st')) :
    (∃ k, st'.iter = st.iter.drop k ∧ (0 < k ∨ st'.done = true)) :=
  (next_ok cfg hm st hr _ st' h).iter item rfl

/-- after an InvalidToken the lexer is in state 0 = `Init`, with an empty match and no saved match -/
theorem next_invalid (cfg : Config σ τ ε) (hm : MachineOK cfg) (st : LState σ) (hr : Ready cfg st)
    (l : Loc) (st' : LState σ) (h : next cfg st = some (some (.invalid l), st')) :
    st'.state = 0 ∧ st'.initial = 0 ∧ st'.curStart = st'.curEnd ∧ st'.last = none :=
  (next_ok cfg hm st hr _ st' h).invalid l rfl

end Lexgen
