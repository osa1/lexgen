import LexgenModel.Proofs.ViableRef
/-!
# Interchangeability of rule sets with the same denotations

The reference lexer (`selectRef`, `errAdvance`) looks at the regexes of a rule set only through their
denotations `den`: two rule lists that agree rule by rule on the action, the right-context number and the
denotation of the regex give the same maximal-munch selection and, when no regex has an empty piece, the same
`InvalidToken` skip. (With empty pieces the skip can differ: `viableRef` tests emptiness syntactically, and
`'a' []` survives the character `a` where the equally empty `""` does not.)
-/
namespace Lexgen

def RulesEquiv (rs1 rs2 : List CoreRule) : Prop :=
  rs1.map (fun r => (r.value, r.ctx)) = rs2.map (fun r => (r.value, r.ctx)) ∧
  ∀ i (h1 : i < rs1.length) (h2 : i < rs2.length) (w : List Sym), den rs1[i].re w ↔ den rs2[i].re w

def RuleEquiv (a b : CoreRule) : Prop :=
  a.value = b.value ∧ a.ctx = b.ctx ∧ ∀ w, den a.re w ↔ den b.re w

theorem RuleEquiv.refl (a : CoreRule) : RuleEquiv a a := ⟨rfl, rfl, fun _ => Iff.rfl⟩

theorem RuleEquiv.symm {a b : CoreRule} (h : RuleEquiv a b) : RuleEquiv b a :=
  ⟨h.1.symm, h.2.1.symm, fun w => (h.2.2 w).symm⟩

theorem RuleEquiv.trans {a b c : CoreRule} (h : RuleEquiv a b) (h' : RuleEquiv b c) : RuleEquiv a c :=
  ⟨h.1.trans h'.1, h.2.1.trans h'.2.1, fun w => (h.2.2 w).trans (h'.2.2 w)⟩

theorem rulesEquiv_length {rs1 rs2 : List CoreRule} (h : RulesEquiv rs1 rs2) : rs1.length = rs2.length := by
  simpa using congrArg List.length h.1

theorem rulesEquiv_nil : RulesEquiv [] [] :=
  ⟨rfl, fun i h1 => absurd h1 (Nat.not_lt_zero i)⟩

theorem rulesEquiv_cons_iff (a b : CoreRule) (l1 l2 : List CoreRule) :
    RulesEquiv (a :: l1) (b :: l2) ↔ RuleEquiv a b ∧ RulesEquiv l1 l2 := by
  constructor
  · rintro ⟨hm, hd⟩
    obtain ⟨hh, hm⟩ := List.cons.inj hm
    exact ⟨⟨(Prod.mk.inj hh).1, (Prod.mk.inj hh).2, hd 0 (Nat.zero_lt_succ _) (Nat.zero_lt_succ _)⟩, hm,
      fun i h1 h2 => hd (i + 1) (Nat.succ_lt_succ h1) (Nat.succ_lt_succ h2)⟩
  · rintro ⟨⟨hv, hc, hw⟩, hm, hd⟩
    refine ⟨?_, fun i h1 h2 w => ?_⟩
    · simp only [List.map_cons, hv, hc, hm]
    · cases i with
      | zero => exact hw w
      | succ i => exact hd i (Nat.lt_of_succ_lt_succ h1) (Nat.lt_of_succ_lt_succ h2) w

theorem rulesEquiv_induction {motive : List CoreRule → List CoreRule → Prop} (nil : motive [] [])
    (cons : ∀ a b l1 l2, RuleEquiv a b → RulesEquiv l1 l2 → motive l1 l2 → motive (a :: l1) (b :: l2)) :
    ∀ {l1 l2 : List CoreRule}, RulesEquiv l1 l2 → motive l1 l2 := by
  intro l1 l2 h
  induction l1 generalizing l2 with
  | nil =>
    cases l2 with
    | nil => exact nil
    | cons b l2 => exact absurd (rulesEquiv_length h) (Nat.succ_ne_zero _).symm
  | cons a l1 ih =>
    cases l2 with
    | nil => exact absurd (rulesEquiv_length h) (Nat.succ_ne_zero _)
    | cons b l2 =>
      obtain ⟨hab, hl⟩ := (rulesEquiv_cons_iff a b l1 l2).mp h
      exact cons a b l1 l2 hab hl (ih hl)

theorem RulesEquiv.refl (rs : List CoreRule) : RulesEquiv rs rs :=
  ⟨rfl, fun _ _ _ _ => Iff.rfl⟩

theorem RulesEquiv.symm {rs1 rs2 : List CoreRule} (h : RulesEquiv rs1 rs2) : RulesEquiv rs2 rs1 :=
  ⟨h.1.symm, fun i h1 h2 w => (h.2 i h2 h1 w).symm⟩

theorem RulesEquiv.trans {rs1 rs2 rs3 : List CoreRule} (h : RulesEquiv rs1 rs2) (h' : RulesEquiv rs2 rs3) :
    RulesEquiv rs1 rs3 :=
  ⟨h.1.trans h'.1, fun i h1 h3 w =>
    have h2 : i < rs2.length := by rw [← rulesEquiv_length h]; exact h1
    (h.2 i h1 h2 w).trans (h'.2 i h2 h3 w)⟩

theorem rulesEquiv_append {l1 l2 m1 m2 : List CoreRule} (h : RulesEquiv l1 l2) (h' : RulesEquiv m1 m2) :
    RulesEquiv (l1 ++ m1) (l2 ++ m2) :=
  rulesEquiv_induction (motive := fun l1 l2 => RulesEquiv (l1 ++ m1) (l2 ++ m2)) h'
    (fun _ _ _ _ hab _ ih => (rulesEquiv_cons_iff ..).mpr ⟨hab, ih⟩) h

theorem rulesEquiv_exists_den {rs1 rs2 : List CoreRule} (h : RulesEquiv rs1 rs2) (w : List Sym) :
    (∃ r ∈ rs1, den r.re w) ↔ ∃ r ∈ rs2, den r.re w := by
  have key : ∀ {rs1 rs2 : List CoreRule}, RulesEquiv rs1 rs2 → (∃ r ∈ rs1, den r.re w) → ∃ r ∈ rs2, den r.re w := by
    rintro rs1 rs2 h ⟨r, hr, hw⟩
    obtain ⟨i, hi, rfl⟩ := List.getElem_of_mem hr
    have hi2 : i < rs2.length := rulesEquiv_length h ▸ hi
    exact ⟨rs2[i], List.getElem_mem hi2, (h.2 i hi hi2 w).mp hw⟩
  exact ⟨key h, key h.symm⟩

theorem matchingAccs_congr {rs1 rs2 : List CoreRule} (h : RulesEquiv rs1 rs2) (w : List Sym) :
    matchingAccs rs1 w = matchingAccs rs2 w := by
  refine rulesEquiv_induction (motive := fun l1 l2 => matchingAccs l1 w = matchingAccs l2 w) rfl ?_ h
  rintro a b l1 l2 ⟨hv, hc, hw⟩ _ ih
  unfold matchingAccs at ih ⊢
  by_cases hd : den a.re w
  · have hd' : den b.re w := (hw w).mp hd
    simp only [List.filter_cons, hd, hd', decide_true, if_true, List.map_cons, ih, hv, hc]
  · have hd' : ¬ den b.re w := fun h => hd ((hw w).mpr h)
    simp only [List.filter_cons, hd, hd', decide_false, Bool.false_eq_true, if_false, ih]

open Classical in
theorem firstLang_congr (ctxAt1 ctxAt2 : Nat → Regex)
    (hc : ∀ i rest, CtxLang (ctxAt1 i) rest ↔ CtxLang (ctxAt2 i) rest) (rest : List Nat) (accs : List Acc) :
    firstLang ctxAt1 rest accs = firstLang ctxAt2 rest accs := by
  induction accs with
  | nil => rfl
  | cons a more ih =>
    obtain ⟨value, ctx⟩ := a
    cases ctx with
    | none => rfl
    | some i => exact ite_congr (propext (hc i rest)) (fun _ => rfl) fun _ => ih

/-- The selection reads the rules only through `matchingAccs` (which rules match a word, with their actions
and right-context numbers, in order) and the right contexts only through `CtxLang`. -/
theorem selectRef_congr_accs {rs1 rs2 : List CoreRule} {ctxAt1 ctxAt2 : Nat → Regex}
    (h : ∀ w, matchingAccs rs1 w = matchingAccs rs2 w)
    (hc : ∀ i rest, CtxLang (ctxAt1 i) rest ↔ CtxLang (ctxAt2 i) rest) (iter : List Nat) :
    selectRef rs1 ctxAt1 iter = selectRef rs2 ctxAt2 iter := by
  have hcand : ∀ n a e, LangCand rs1 ctxAt1 iter n a e ↔ LangCand rs2 ctxAt2 iter n a e := by
    intro n a e
    unfold LangCand
    rw [h, h, firstLang_congr ctxAt1 ctxAt2 hc, firstLang_congr ctxAt1 ctxAt2 hc]
  refine Option.ext fun ⟨n, a, e⟩ => ?_
  simp only [selectRef_some, Selects, hcand]

theorem selectRef_congr (rs1 rs2 : List CoreRule) (ctxAt1 ctxAt2 : Nat → Regex) (h : RulesEquiv rs1 rs2)
    (hc : ∀ i rest, CtxLang (ctxAt1 i) rest ↔ CtxLang (ctxAt2 i) rest) (iter : List Nat) :
    selectRef rs1 ctxAt1 iter = selectRef rs2 ctxAt2 iter :=
  selectRef_congr_accs (matchingAccs_congr h) hc iter

theorem ctxLang_congr {c1 c2 : Regex} (h : ∀ w, den c1 w ↔ den c2 w) (rest : List Nat) :
    CtxLang c1 rest ↔ CtxLang c2 rest :=
  exists_congr fun _ => h _

theorem viableAt_mono {l1 l2 : List Regex} (h : ∀ w, (∃ r ∈ l1, den r w) → ∃ r ∈ l2, den r w) {iter : List Nat}
    {j : Nat} : ViableAt l1 iter j → ViableAt l2 iter j :=
  fun ⟨r, hr, v, hv⟩ => (h _ ⟨r, hr, hv⟩).elim fun r' h' => ⟨r', h'.1, v, h'.2⟩

theorem extendableAt_mono {l1 l2 : List Regex} (h : ∀ w, (∃ r ∈ l1, den r w) → ∃ r ∈ l2, den r w)
    {iter : List Nat} {j : Nat} : ExtendableAt l1 iter j → ExtendableAt l2 iter j :=
  fun ⟨r, hr, x, v, hv⟩ => (h _ ⟨r, hr, hv⟩).elim fun r' h' => ⟨r', h'.1, x, v, h'.2⟩

/-- The skip of an `InvalidToken` depends on the regexes only through the union of their languages, so the
lists need not even have the same length or order. Both must be normalised because `viableRef` tests emptiness
syntactically. -/
theorem errAdvance_congr_lang {l1 l2 : List Regex} (h : ∀ w, (∃ r ∈ l1, den r w) ↔ ∃ r ∈ l2, den r w)
    (h1 : ∀ r ∈ l1, Norm r) (h2 : ∀ r ∈ l2, Norm r) (iter : List Nat) :
    errAdvance l1 iter = errAdvance l2 iter := by
  have h12 := fun w => (h w).mp
  have h21 := fun w => (h w).mpr
  obtain ⟨⟨a, b, c⟩, e1⟩ := viableRef_norm l1 h1 iter
  obtain ⟨v2, e2⟩ := viableRef_norm l2 h2 iter
  have hk : (viableRef l1 iter).1 = (viableRef l2 iter).1 :=
    isViableLen_unique ⟨a, fun j h0 hj => viableAt_mono h12 (b j h0 hj), fun hk hv => c hk (viableAt_mono h21 hv)⟩ v2
  have hany : ((viableRef l1 iter).2.any fun r => aliveR r && hasWordR r) =
      ((viableRef l2 iter).2.any fun r => aliveR r && hasWordR r) := by
    rw [Bool.eq_iff_iff, e1, e2, hk]
    exact ⟨extendableAt_mono h12, extendableAt_mono h21⟩
  unfold errAdvance
  simp only [hk, hany]

theorem errAdvance_congr (rs1 rs2 : List CoreRule) (h : RulesEquiv rs1 rs2)
    (h1 : ∀ r ∈ rs1, NoEmptyPieces r.re) (h2 : ∀ r ∈ rs2, NoEmptyPieces r.re) (iter : List Nat) :
    errAdvance (rs1.map (·.re)) iter = errAdvance (rs2.map (·.re)) iter :=
  errAdvance_congr_lang (fun w => by rw [exists_mem_map, exists_mem_map]; exact rulesEquiv_exists_den h w)
    (norm_of_noEmptyPieces (List.forall_mem_map.mpr h1)) (norm_of_noEmptyPieces (List.forall_mem_map.mpr h2)) iter

theorem rulesEquiv_replace (pre post : List CoreRule) (r : CoreRule) (re' : Regex)
    (h : ∀ w, den r.re w ↔ den re' w) :
    RulesEquiv (pre ++ r :: post) (pre ++ { r with re := re' } :: post) :=
  rulesEquiv_append (RulesEquiv.refl pre)
    ((rulesEquiv_cons_iff _ _ _ _).mpr ⟨⟨rfl, rfl, h⟩, RulesEquiv.refl post⟩)

theorem rulesEquiv_set (rs : List CoreRule) (i : Nat) (hi : i < rs.length) (re' : Regex)
    (h : ∀ w, den rs[i].re w ↔ den re' w) :
    RulesEquiv rs (rs.set i { rs[i] with re := re' }) := by
  induction rs generalizing i with
  | nil => exact absurd hi (Nat.not_lt_zero i)
  | cons a l ih =>
    cases i with
    | zero => exact (rulesEquiv_cons_iff ..).mpr ⟨⟨rfl, rfl, h⟩, RulesEquiv.refl l⟩
    | succ i => exact (rulesEquiv_cons_iff ..).mpr ⟨RuleEquiv.refl a, ih i (Nat.lt_of_succ_lt_succ hi) h⟩

theorem selectRef_replace (pre post : List CoreRule) (r : CoreRule) (re' : Regex)
    (h : ∀ w, den r.re w ↔ den re' w) (ctxAt : Nat → Regex) (iter : List Nat) :
    selectRef (pre ++ r :: post) ctxAt iter = selectRef (pre ++ { r with re := re' } :: post) ctxAt iter :=
  selectRef_congr _ _ ctxAt ctxAt (rulesEquiv_replace pre post r re' h) (fun _ _ => Iff.rfl) iter

/-- `NoEmptyPieces` is syntactic, hence also needed of the new regex -/
theorem errAdvance_replace (pre post : List CoreRule) (r : CoreRule) (re' : Regex)
    (h : ∀ w, den r.re w ↔ den re' w) (hne : ∀ x ∈ pre ++ r :: post, NoEmptyPieces x.re) (hne' : NoEmptyPieces re')
    (iter : List Nat) :
    errAdvance ((pre ++ r :: post).map (·.re)) iter =
      errAdvance ((pre ++ { r with re := re' } :: post).map (·.re)) iter := by
  apply errAdvance_congr _ _ (rulesEquiv_replace pre post r re' h) hne
  rw [List.forall_mem_append, List.forall_mem_cons] at hne ⊢
  exact ⟨hne.1, hne', hne.2.2⟩

theorem den_plus_unfold (r : Regex) (w : List Sym) : den (.plus r) w ↔ den (.cat r (.star r)) w := Iff.rfl

theorem den_alt_comm (a b : Regex) (w : List Sym) : den (.alt a b) w ↔ den (.alt b a) w := Or.comm

theorem den_alt_assoc (a b c : Regex) (w : List Sym) : den (.alt (.alt a b) c) w ↔ den (.alt a (.alt b c)) w :=
  or_assoc

/-- the empty word is written `.star (.str [])` (`epsR`): `Regex` has no constructor for it -/
theorem den_opt_unfold (r : Regex) (w : List Sym) : den (.opt r) w ↔ den (.alt r (.star (.str []))) w :=
  Or.comm.trans (or_congr_right (den_epsR w).symm)

/-- For `cs = []` the statement is FALSE: `.str [c]` denotes `[c]` while `.str []` denotes the empty language, so the
right-hand side is empty (`den_str_single` is that case). -/
theorem den_str_cons (c : Nat) (cs : List Nat) (hcs : cs ≠ []) (w : List Sym) :
    den (.str (c :: cs)) w ↔ den (.cat (.chr c) (.str cs)) w := by
  constructor
  · rintro ⟨_, rfl⟩
    exact ⟨[.ch c], cs.map Sym.ch, rfl, rfl, hcs, rfl⟩
  · rintro ⟨u, v, rfl, rfl, _, rfl⟩
    exact ⟨List.cons_ne_nil _ _, rfl⟩

theorem den_str_single (c : Nat) (w : List Sym) : den (.str [c]) w ↔ den (.chr c) w :=
  ⟨And.right, fun h => ⟨List.cons_ne_nil _ _, h⟩⟩

/-- the restriction `cs ≠ []` of `den_str_cons` is necessary -/
example : ¬ ∀ w, den (.str [97]) w ↔ den (.cat (.chr 97) (.str [])) w := by
  intro h
  have h1 : den (.str [97]) [.ch 97] := ⟨List.cons_ne_nil _ _, rfl⟩
  obtain ⟨_, _, _, _, hne, _⟩ := (h _).mp h1
  exact hne rfl

/-- example of use: `r+` may be written `r r*` in any rule without changing what the reference lexer selects -/
theorem selectRef_plus_unfold (pre post : List CoreRule) (r : Regex) (ctx : Option Nat) (value : Nat)
    (ctxAt : Nat → Regex) (iter : List Nat) :
    selectRef (pre ++ { re := .plus r, ctx := ctx, value := value } :: post) ctxAt iter =
      selectRef (pre ++ { re := .cat r (.star r), ctx := ctx, value := value } :: post) ctxAt iter :=
  selectRef_replace pre post { re := .plus r, ctx := ctx, value := value } (.cat r (.star r))
    (den_plus_unfold r) ctxAt iter

end Lexgen
