import LexgenModel.Proofs.NextSpec
import LexgenModel.Proofs.Runs
import LexgenModel.Proofs.Simplify
/-!
# Renaming the accept entries of a machine at run time

An accept entry `⟨value, ctx⟩` names a semantic action and, optionally, a right-context automaton. The generated `next()` uses `value` only to
pick the action to call and to remember it in `last_match`, and `ctx` only to call the context function. So if the accept entries of a machine are
renamed by `Acc.map f g` (ANY `f`, `g`) and, under the new names, the action table and the context automata of the renamed machine do what those of
the original did under the old names (`Renamed f g cfg cfg'`), the renamed machine simulates the original from EVERY lexer state, the saved match
being renamed along (`next_ren`, `runN_ren`): runs need no invariant. `ActionNumbering` is the case `g = id`, `ContextNumbering` the case `f = id`.
-/
namespace Lexgen
variable {σ τ ε : Type}

/-- rename the action by `f` and the right-context number by `g`; the statements about one of the two alone are written with
`Acc.mapV f` (`Acc.map f id`: `DState.mapVTrans_eq`) and `Acc.mapC g` (`Acc.map id g`: `DState.mapCTrans_eq`) -/
def Acc.map (f g : Nat → Nat) (a : Acc) : Acc := ⟨f a.value, a.ctx.map g⟩

def Trans.mapA (h : Acc → Acc) : Trans → Trans
  | .goto s => .goto s
  | .accept accs => .accept (accs.map h)

/-- apply `h` to every accept entry of a state of the simplified automaton (accept lists also sit on transitions) -/
def DState.mapA (h : Acc → Acc) (s : DState Trans) : DState Trans :=
  { s with accepting := s.accepting.map h,
           chars := s.chars.map fun p => (p.1, p.2.mapA h),
           ranges := RangeMap.mapVals (Trans.mapA h) s.ranges,
           any := s.any.map (Trans.mapA h),
           eoi := s.eoi.map (Trans.mapA h) }

def StMap (f : Nat → Nat) (st : LState σ) : LState σ :=
  { st with last := st.last.map fun s => { s with action := f s.action } }

def Outcome.mapV (f : Nat → Nat) : Outcome σ → Outcome σ
  | .act a st => .act (f a) (StMap f st)
  | .err loc st => .err loc (StMap f st)
  | .fin st => .fin (StMap f st)
  | .goto st => .goto (StMap f st)

def StepOut.mapSt (g : LState σ → LState σ) : StepOut σ τ ε → StepOut σ τ ε
  | .ret item st => .ret item (g st)
  | .cont st => .cont (g st)

theorem StMap_id : (StMap id : LState σ → LState σ) = id := by
  funext st
  rcases st with ⟨state, done, initial, user, iter, cs, ce, last⟩
  cases last <;> rfl

/-- `acts'` after the renaming is `acts`: the action at `f k` does on a view what the action at `k` does; a view records (field `action`) the index
under which the action is called, so the two calls are made with views that differ there -/
def ActsAgree (f : Nat → Nat) (acts acts' : Nat → Action σ τ ε) : Prop :=
  ∀ (k : Nat) (v : View σ), (acts' (f k)).run { v with action := f k } = (acts k).run { v with action := k }

theorem actsAgree_id (acts : Nat → Action σ τ ε) : ActsAgree id acts acts := fun _ _ => rfl

structure Renamed (f g : Nat → Nat) (cfg cfg' : Config σ τ ε) : Prop where
  dfa : cfg'.dfa = cfg.dfa.map (DState.mapA (Acc.map f g))
  entries : cfg'.entries = cfg.entries
  inl : cfg'.inl = cfg.inl
  width : cfg'.width = cfg.width
  input : cfg'.input = cfg.input
  same : ∀ i iter, ctxOK cfg' (g i) iter = ctxOK cfg i iter
  acts : ActsAgree f cfg.actions cfg'.actions

theorem getD_map_of_empty {α β : Type} (g : α → β) (l : List α) (i : Nat) (e : α) (e' : β) (he : g e = e') :
    (l.map g).getD i e' = g (l.getD i e) := by
  subst he
  simp only [List.getD_eq_getElem?_getD, List.getElem?_map, Option.getD_map]

theorem DFA.st_map {α β : Type} (F : DState α → DState β) (hF : F DState.empty = DState.empty) (d : DFA α) (s : Nat) :
    DFA.st (d.map F) s = F (DFA.st d s) :=
  getD_map_of_empty F d s _ _ hF

theorem firstOK_map (f g : Nat → Nat) (ok ok' : Nat → Bool) (hok : ∀ i, ok' (g i) = ok i) (accs : List Acc) :
    firstOK ok' (accs.map (Acc.map f g)) = (firstOK ok accs).map f := by
  induction accs with
  | nil => rfl
  | cons a rest ih =>
    obtain ⟨v, ctx⟩ := a
    cases ctx with
    | none => rfl
    | some i =>
      simp only [List.map_cons, firstOK, Acc.map, Option.map_some, hok]
      split
      · rfl
      · exact ih

theorem lookup_mapA (h : Acc → Acc) (d : DState Trans) (c : Nat) :
    (match lookupChar (d.mapA h).chars c with
      | some t => some t
      | none => RangeMap.lookup (d.mapA h).ranges c) =
    (match lookupChar d.chars c with
      | some t => some t
      | none => RangeMap.lookup d.ranges c).map (Trans.mapA h) := by
  show (match lookupChar (d.chars.map fun p => (p.1, p.2.mapA h)) c with
    | some t => some t
    | none => RangeMap.lookup (RangeMap.mapVals (Trans.mapA h) d.ranges) c) = _
  rw [Simplify.lookupChar_map, Simplify.rangeLookup_mapVals]
  cases lookupChar d.chars c <;> rfl

/-! ## The numbering of the generated code ignores accept entries -/

def goesB (s : Nat) : Trans → Bool | .goto n => n == s | .accept _ => false
def isAccB : Trans → Bool | .accept _ => true | .goto _ => false

theorem inlineSites_eq (pred : DState Trans) (s : Nat) : inlineSites pred s =
  (if pred.chars.any (fun e => goesB s e.2) then 1 else 0) +
  (if pred.ranges.any (fun r => goesB s r.2.2) then 1 else 0) +
  (match pred.any with
   | some t =>
     if goesB s t then 1 + (pred.chars.filter (fun e => isAccB e.2)).length + (pred.ranges.filter (fun r => isAccB r.2.2)).length
     else 0
   | none => 0) := by
  rfl

theorem goesB_mapA (h s t) : goesB s (Trans.mapA h t) = goesB s t := by cases t <;> rfl
theorem isAccB_mapA (h t) : isAccB (Trans.mapA h t) = isAccB t := by cases t <;> rfl

theorem inlineSites_mapA (h : Acc → Acc) (p : DState Trans) (s : Nat) :
    inlineSites (DState.mapA h p) s = inlineSites p s := by
  rw [inlineSites_eq, inlineSites_eq]
  unfold DState.mapA RangeMap.mapVals
  simp only [List.any_map, List.filter_map, List.length_map, Function.comp_def, goesB_mapA, isAccB_mapA]
  cases p.any with
  | none => rfl
  | some t => simp only [Option.map_some, goesB_mapA]

theorem inlinedStates_mapA (h : Acc → Acc) (d : DFA Trans) : inlinedStates (d.map (DState.mapA h)) = inlinedStates d := by
  unfold inlinedStates isInlined
  simp only [DFA.st_map (DState.mapA h) rfl, inlineSites_mapA, List.length_map]
  rfl

theorem stateArms_map (F : DState Trans → DState Trans) (d : DFA Trans) (inl : List Nat) :
    stateArms (d.map F) inl = stateArms d inl := by
  unfold stateArms
  simp only [List.length_map]

theorem failCode_mapA (f : Nat → Nat) (h : Acc → Acc) (d : DState Trans) (st : LState σ) :
    failCode (DState.mapA h d) (StMap f st) = (failCode d st).mapV f := by
  unfold failCode
  have h1 : (DState.mapA h d).backtrack = d.backtrack := rfl
  have h2 : (DState.mapA h d).accepting.isEmpty = d.accepting.isEmpty := List.isEmpty_map
  rw [h1, h2]
  split
  · rcases st with ⟨state, done, initial, user, iter, cs, ce, last⟩
    cases last <;> rfl
  · rfl

section scan
variable {f g : Nat → Nat} {cfg cfg' : Config σ τ ε} (R : Renamed f g cfg cfg')
include R

theorem firstOK_ren (accs : List Acc) (st : LState σ) :
    firstOK (fun i => ctxOK cfg' i (StMap f st).iter) (accs.map (Acc.map f g)) = (firstOK (fun i => ctxOK cfg i st.iter) accs).map f :=
  firstOK_map f g _ _ (fun i => R.same i st.iter) accs

theorem setAccepting_ren (d : DState Trans) (st : LState σ) :
    setAccepting cfg' (DState.mapA (Acc.map f g) d) (StMap f st) = StMap f (setAccepting cfg d st) := by
  unfold setAccepting
  show (match firstOK _ (d.accepting.map (Acc.map f g)) with | some a => _ | none => _) = _
  rw [firstOK_ren R]
  cases firstOK (fun i => ctxOK cfg i st.iter) d.accepting <;> rfl

theorem testRightCtxs_ren (accs : List Acc) (st : LState σ) (dflt dflt' : Unit → Outcome σ)
    (hd : dflt' () = (dflt ()).mapV f) :
    testRightCtxs cfg' (accs.map (Acc.map f g)) (StMap f st) dflt' = (testRightCtxs cfg accs st dflt).mapV f := by
  unfold testRightCtxs
  rw [firstOK_ren R]
  cases firstOK (fun i => ctxOK cfg i st.iter) accs with
  | none => exact hd
  | some a =>
    rcases st with ⟨state, done, initial, user, iter, cs, ce, last⟩
    cases last <;> rfl

theorem stepSt_ren (d : DState Trans) (c : Nat) (rest : List Nat) (st : LState σ) :
    ScanPlain.stepSt cfg' (DState.mapA (Acc.map f g) d) c rest (StMap f st) = StMap f (ScanPlain.stepSt cfg d c rest st) := by
  unfold ScanPlain.stepSt
  rw [R.width]
  exact congrArg (fun s : LState σ => { s with iter := rest, curEnd := s.curEnd.advance cfg.width c }) (setAccepting_ren R d { st with iter := c :: rest })

theorem eoiSt_ren (d : DState Trans) (st : LState σ) :
    ScanPlain.eoiSt cfg' (DState.mapA (Acc.map f g) d) (StMap f st) = StMap f (ScanPlain.eoiSt cfg d st) :=
  congrArg (fun s : LState σ => { s with done := true }) (setAccepting_ren R d { st with iter := [] })

theorem gotoK_ren (K K' : Nat → List Nat → LState σ → Outcome σ) (ns : Nat → Option Nat) (rest : List Nat)
    (hK : ∀ t st, K' t rest (StMap f st) = (K t rest st).mapV f) (st : LState σ) (t : Nat) :
    ScanPlain.gotoK K' cfg' ns rest (StMap f st) t = (ScanPlain.gotoK K cfg ns rest st t).mapV f := by
  unfold ScanPlain.gotoK
  rw [R.inl]
  split
  · exact hK t st
  · dsimp only
    cases ns (renumber cfg.inl t) with
    | none => rfl
    | some t' => exact hK t' { st with state := renumber cfg.inl t }

theorem scan_ren (ns : Nat → Option Nat) (iter : List Nat) :
    ∀ (s : Nat) (st : LState σ), scan cfg' ns s iter (StMap f st) = (scan cfg ns s iter st).mapV f := by
  induction iter with
  | nil =>
    intro s st
    rw [ScanPlain.scan_nil, ScanPlain.scan_nil, R.dfa, DFA.st_map _ rfl, eoiSt_ren R, R.inl]
    generalize ScanPlain.eoiSt cfg (cfg.dfa.st s) st = st1
    generalize cfg.dfa.st s = d
    have hfail : (if s = 0 then Outcome.fin (StMap f st1) else failCode (DState.mapA (Acc.map f g) d) (StMap f st1)) =
        Outcome.mapV f (if s = 0 then Outcome.fin st1 else failCode d st1) := by
      split
      · rfl
      · exact failCode_mapA f _ d st1
    show (match d.eoi.map (Trans.mapA (Acc.map f g)) with | some (.accept accs) => _ | some (.goto t) => _ | none => _) = _
    rcases d.eoi with _ | t | accs
    · exact hfail
    · rfl
    · exact testRightCtxs_ren R accs _ _ _ hfail
  | cons c rest ih =>
    intro s st
    rw [ScanPlain.scan_cons, ScanPlain.scan_cons, R.dfa, DFA.st_map _ rfl, stepSt_ren R]
    generalize ScanPlain.stepSt cfg (cfg.dfa.st s) c rest st = st1
    generalize cfg.dfa.st s = d
    -- the transition on `c` and the `any` default are dispatched on in the same way, with defaults `D`, `D'`
    have hdisp : ∀ (o o' : Option Trans) (D D' : Outcome σ), o' = o.map (Trans.mapA (Acc.map f g)) → D' = D.mapV f →
        (match o' with
          | some (.goto t) => ScanPlain.gotoK (scan cfg' ns) cfg' ns rest (StMap f st1) t
          | some (.accept accs) => testRightCtxs cfg' accs (StMap f st1) (fun _ => D')
          | none => D') =
        Outcome.mapV f (match o with
          | some (.goto t) => ScanPlain.gotoK (scan cfg ns) cfg ns rest st1 t
          | some (.accept accs) => testRightCtxs cfg accs st1 (fun _ => D)
          | none => D) := by
      intro o o' D D' ho hD
      subst ho
      rcases o with _ | t | accs
      · exact hD
      · exact gotoK_ren R _ _ ns rest (fun t st => ih t st) st1 t
      · exact testRightCtxs_ren R accs _ _ _ hD
    exact hdisp _ _ _ _ (lookup_mapA _ d c) (hdisp d.any _ _ _ rfl (failCode_mapA f _ d st1))
end scan

section next
variable {f g : Nat → Nat} {cfg cfg' : Config σ τ ε} (R : Renamed f g cfg cfg')
include R

theorem callAction_ren (a : Nat) (st : LState σ) :
    callAction cfg' (f a) (StMap f st) = (callAction cfg a st).mapSt (StMap f) := by
  have hsw : switchNum cfg' = switchNum cfg := by
    funext r; unfold switchNum; rw [R.entries, R.inl]
  have hv : (cfg'.actions (f a)).run (mkView cfg' (f a) (StMap f st)) = (cfg.actions a).run (mkView cfg a st) := by
    have := R.acts a (mkView cfg a st)
    unfold mkView at this ⊢
    rw [R.input]
    exact this
  rw [callAction_spec cfg' (f a) (StMap f st) hv, callAction_spec cfg a st rfl]
  unfold callSt
  rw [hsw]
  -- `StMap` touches `last` only, the effect every field but `last`
  rcases ((cfg.actions a).run (mkView cfg a st)).res with _ | _ | _ <;> rfl

theorem finish_ren (o : Outcome σ) : finish cfg' (o.mapV f) = (finish cfg o).mapSt (StMap f) := by
  cases o with
  | act a st => exact callAction_ren R a st
  | err loc st => rfl
  | fin st => rfl
  | goto st => rfl

theorem nextLoop_ren (fuel : Nat) : ∀ st : LState σ,
    nextLoop cfg' fuel (StMap f st) = (nextLoop cfg fuel st).map fun r => (r.1, StMap f r.2) := by
  induction fuel with
  | zero => intro st; rfl
  | succ fuel ih =>
    intro st
    have hs : ∀ ns s, execState cfg' ns s st.iter (StMap f st) = (execState cfg ns s st.iter st).mapSt (StMap f) := fun ns s => by
      unfold execState
      rw [scan_ren R, finish_ren R]
    unfold nextLoop
    rw [show (StMap f st).done = st.done from rfl, show (StMap f st).state = st.state from rfl,
      show (StMap f st).iter = st.iter from rfl, R.dfa, stateArms_map, R.inl]
    -- (not `rfl` when `done`: the kernel would first compare the two `else` branches, which differ deep inside)
    cases st.done with
    | true => simp only [if_true, Option.map_some]
    | false =>
      simp only [Bool.false_eq_true, if_false]
      cases dispatch (stateArms cfg.dfa cfg.inl) st.state with
      | none => rfl
      | some s =>
        simp only [hs]
        cases execState cfg (dispatch (stateArms cfg.dfa cfg.inl)) s st.iter st with
        | ret item st' => rfl
        | cont st' => exact ih st'

theorem next_ren (st : LState σ) : next cfg' (StMap f st) = (next cfg st).map fun r => (r.1, StMap f r.2) :=
  nextLoop_ren R _ st

theorem runN_ren (n : Nat) (st : LState σ) :
    runN cfg' n (StMap f st) = ((runN cfg n st).1, StMap f (runN cfg n st).2) := by
  obtain ⟨h1, h2⟩ := (runN_isRun cfg).rel (runN_isRun cfg') (fun a b => b = StMap f a)
    (fun a b h => by
      rw [h, next_ren R]
      cases next cfg a with
      | none => exact .none
      | some r => exact .some r.1 rfl) n st _ rfl
  exact Prod.ext h1.symm h2
end next

end Lexgen
