import LexgenModel.Spec.Total
import LexgenModel.Proofs.Subset
/-!
# Totality of the work-list subset construction `nfaToDfa`

`nfaToDfa_total`: on every well-formed NFA the loop of `nfaToDfa` ends within `nfaToDfaFuel`.

* at most `2 ^ nfa.length` keys (ascending lists of NFA states `< nfa.length`) ever enter the state map,
  so at most that many states are expanded;
* one expansion pushes at most `transBound nfa` closures: one per collected char key, one per piece
  of the collected range map (whose starts are among the `2 * Σ ranges.length` end points of the
  NFA's ranges), and at most two for `any` / end-of-input.
-/
namespace Lexgen.SubsetTotal
open Lexgen Lexgen.Subset

/-- all ascending lists over `[lo, lo + m)` -/
def powFrom : Nat → Nat → List (List Nat)
  | _, 0 => [[]]
  | lo, m + 1 => powFrom (lo + 1) m ++ (powFrom (lo + 1) m).map (lo :: ·)

theorem length_powFrom (lo m : Nat) : (powFrom lo m).length = 2 ^ m := by
  induction m generalizing lo with
  | zero => rfl
  | succ m ih =>
    simp only [powFrom, List.length_append, List.length_map, ih]
    rw [Nat.pow_succ]; omega

theorem nil_mem_powFrom (lo m : Nat) : [] ∈ powFrom lo m := by
  induction m generalizing lo with
  | zero => simp [powFrom]
  | succ m ih => simp only [powFrom]; exact List.mem_append_left _ (ih _)

theorem mem_powFrom (m : Nat) : ∀ (lo : Nat) (k : List Nat), Ascending k →
    (∀ x ∈ k, lo ≤ x ∧ x < lo + m) → k ∈ powFrom lo m := by
  induction m with
  | zero =>
    intro lo k _ hb
    cases k with
    | nil => exact List.mem_singleton.mpr rfl
    | cons a l => exact absurd (hb a List.mem_cons_self).2 (Nat.not_lt.mpr (hb a List.mem_cons_self).1)
  | succ m ih =>
    intro lo k ha hb
    -- members above `lo` lie in the window of the recursive call
    have hup : ∀ x, lo < x → x < lo + (m + 1) → lo + 1 ≤ x ∧ x < lo + 1 + m :=
      fun x h1 h2 => ⟨h1, Nat.add_right_comm lo 1 m ▸ h2⟩
    cases k with
    | nil => exact nil_mem_powFrom _ _
    | cons a l =>
      obtain ⟨h1, h2⟩ := ascending_cons.mp ha
      have hl : ∀ x ∈ l, lo < x := fun x hx =>
        Nat.lt_of_le_of_lt (hb a List.mem_cons_self).1 (h1 x hx)
      simp only [powFrom]
      by_cases hal : a = lo
      · subst hal
        exact List.mem_append_right _ (List.mem_map.mpr
          ⟨l, ih _ l h2 fun x hx => hup x (hl x hx) (hb x (List.mem_cons_of_mem _ hx)).2, rfl⟩)
      · refine List.mem_append_left _ (ih _ _ ha fun x hx => hup x ?_ (hb x hx).2)
        rcases List.mem_cons.mp hx with rfl | hx'
        · exact Nat.lt_of_le_of_ne (hb x List.mem_cons_self).1 (Ne.symm hal)
        · exact hl x hx'

/-- key of a DFA state: an ascending list of NFA states below `n` (the instance of `K` in `KInv` for
counting keys; `KeyOK` asks for non-emptiness instead of the bound) -/
def KeyB (n : Nat) (k : List Nat) : Prop := Ascending k ∧ ∀ x ∈ k, x < n

theorem keys_length_le (n : Nat) (L : List (List Nat)) (hn : L.Nodup) (hk : ∀ k ∈ L, KeyB n k) :
    L.length ≤ 2 ^ n := by
  rw [← length_powFrom 0 n]
  exact hn.length_le_of_subset (fun k hk' =>
    mem_powFrom n 0 k (hk k hk').1 (fun x hx => ⟨Nat.zero_le _, by have := (hk k hk').2 x hx; omega⟩))

def bnds {α : Type} (l : RangeMap α) : List Nat := l.flatMap (fun q => [q.1, q.2.1 + 1])

theorem bnds_cons {α : Type} (q : Nat × Nat × α) (l : RangeMap α) :
    bnds (q :: l) = q.1 :: (q.2.1 + 1) :: bnds l := rfl

theorem length_bnds {α : Type} (l : RangeMap α) : (bnds l).length = 2 * l.length := by
  induction l with
  | nil => rfl
  | cons q l ih => rw [bnds_cons]; simp only [List.length_cons, ih]; omega

theorem mem_bnds {α : Type} {l : RangeMap α} {q : Nat × Nat × α} (h : q ∈ l) :
    q.1 ∈ bnds l ∧ q.2.1 + 1 ∈ bnds l :=
  ⟨List.mem_flatMap.mpr ⟨q, h, List.mem_cons_self⟩,
    List.mem_flatMap.mpr ⟨q, h, List.mem_cons_of_mem _ List.mem_cons_self⟩⟩

theorem mem_bnds_iff {α : Type} {l : RangeMap α} {y : Nat} :
    y ∈ bnds l ↔ ∃ q ∈ l, y = q.1 ∨ y = q.2.1 + 1 := by
  simp only [bnds, List.mem_flatMap, List.mem_cons, List.not_mem_nil, or_false]

theorem insertAux_bounds {α : Type} (merge : α → α → α) (l : RangeMap α) (lastEnd : Option Nat) (ns ne : Nat) (v : α) :
    ∀ y ∈ bnds (RangeMap.insertAux merge l lastEnd ns ne v), y = ns ∨ y = ne + 1 ∨ y ∈ bnds l := by
  intro y hy
  obtain ⟨r, hr, h⟩ := mem_bnds_iff.mp hy
  have hc : RangeMap.Cut ns ne l y :=
    h.elim (· ▸ (RangeMap.mem_insertAux hr).2.1) (· ▸ (RangeMap.mem_insertAux hr).2.2)
  exact hc.imp_right (Or.imp_right mem_bnds_iff.mpr)

def rangeCands (nfa : NFA) : List Nat := nfa.flatMap (fun st => bnds st.ranges)

def charCands (nfa : NFA) : List Nat := nfa.flatMap (fun st => st.chars.map (·.1))

theorem transBound_fold (nfa : NFA) (a : Nat) :
    nfa.foldl (fun acc st => acc + st.chars.length + 2 * st.ranges.length) a =
      a + (charCands nfa).length + (rangeCands nfa).length := by
  induction nfa generalizing a with
  | nil => rfl
  | cons st nfa ih =>
    rw [List.foldl_cons, ih]
    simp only [charCands, rangeCands, List.flatMap_cons, List.length_append, List.length_map, length_bnds]
    omega

theorem transBound_eq (nfa : NFA) :
    transBound nfa = (charCands nfa).length + (rangeCands nfa).length + 3 := by
  unfold transBound
  rw [transBound_fold]; omega

theorem st_mem_or_empty (nfa : NFA) (s : Nat) : nfa.st s ∈ nfa ∨ nfa.st s = NState.empty := by
  by_cases hs : s < nfa.length
  · left
    unfold NFA.st
    rw [List.getD_eq_getElem?_getD, List.getElem?_eq_getElem hs]
    exact List.getElem_mem hs
  · exact Or.inr (st_eq_empty_of_le (Nat.le_of_not_lt hs))

theorem st_bnds_cands (nfa : NFA) (s : Nat) : ∀ x ∈ bnds (nfa.st s).ranges, x ∈ rangeCands nfa := by
  intro x hx
  rcases st_mem_or_empty nfa s with h | h
  · exact List.mem_flatMap.mpr ⟨_, h, hx⟩
  · rw [h] at hx; cases hx

theorem st_chars_cands (nfa : NFA) (s : Nat) : ∀ e ∈ (nfa.st s).chars, e.1 ∈ charCands nfa := by
  intro e he
  rcases st_mem_or_empty nfa s with h | h
  · exact List.mem_flatMap.mpr ⟨_, h, List.mem_map_of_mem he⟩
  · rw [h] at he; cases he

/-- Every piece of the collected range map starts and ends where a range of the NFA does: the
pieces are cut only at end points of inserted ranges. -/
theorem bnds_collect (nfa : NFA) (S : List Nat) : ∀ x ∈ bnds (collect nfa S).ranges, x ∈ rangeCands nfa := by
  rw [collect_eq]
  refine foldl_inv (collectStep nfa) (fun c _ => ∀ x ∈ bnds c.ranges, x ∈ rangeCands nfa) S {}
    (fun x hx => nomatch hx) (fun c _ s _ hc => ?_)
  show ∀ x ∈ bnds ((nfa.st s).ranges.foldl (fun m r => RangeMap.insert setUnion m r.1 r.2.1 r.2.2) c.ranges),
    x ∈ rangeCands nfa
  refine foldl_inv (fun m (r : Nat × Nat × List Nat) => RangeMap.insert setUnion m r.1 r.2.1 r.2.2)
    (fun m _ => ∀ x ∈ bnds m, x ∈ rangeCands nfa) (nfa.st s).ranges c.ranges hc (fun m _ r hr hm x hx => ?_)
  rcases insertAux_bounds setUnion m none r.1 r.2.1 r.2.2 x hx with rfl | rfl | h
  · exact st_bnds_cands nfa s _ (mem_bnds hr).1
  · exact st_bnds_cands nfa s _ (mem_bnds hr).2
  · exact hm x h

theorem wf_starts_nodup {α : Type} {lo : Nat} {l : RangeMap α} (h : RangeMap.WFFrom lo l) :
    (l.map (·.1)).Nodup := by
  induction l generalizing lo with
  | nil => exact List.nodup_nil
  | cons q rest ih =>
    obtain ⟨s, e, v⟩ := q
    rw [List.map_cons, List.nodup_cons]
    refine ⟨fun hmem => ?_, ih h.2.2⟩
    obtain ⟨r, hr, hrs⟩ := List.mem_map.mp hmem
    have h1 := (RangeMap.WFFrom.mem h.2.2 hr).1
    have h2 := h.2.1
    simp only at hrs
    omega

theorem cm_keys_nodup {lo : Nat} {m : List (Nat × List Nat)} (h : CMFrom lo m) : (m.map (·.1)).Nodup := by
  induction m generalizing lo with
  | nil => exact List.nodup_nil
  | cons x rest ih =>
    obtain ⟨k, v⟩ := x
    rw [List.map_cons, List.nodup_cons]
    refine ⟨fun hmem => ?_, ih h.2⟩
    obtain ⟨r, hr, hrs⟩ := List.mem_map.mp hmem
    have h1 := cm_le h.2 r hr
    simp only at hrs
    omega

theorem col_ranges_length {nfa : NFA} (hwf : NFAWF nfa) (S : List Nat) :
    (collect nfa S).ranges.length ≤ (rangeCands nfa).length := by
  have h := (wf_starts_nodup (collect_spec hwf S).rwf).length_le_of_subset (l₂ := rangeCands nfa)
    (fun x hx => by
      obtain ⟨r, hr, rfl⟩ := List.mem_map.mp hx
      exact bnds_collect nfa S _ (mem_bnds hr).1)
  rwa [List.length_map] at h

theorem col_chars_length {nfa : NFA} (hwf : NFAWF nfa) (S : List Nat) :
    (collect nfa S).chars.length ≤ (charCands nfa).length := by
  have hcs := collect_spec hwf S
  have h := (cm_keys_nodup hcs.cwf).length_le_of_subset (l₂ := charCands nfa) (fun x hx => by
    obtain ⟨e, he, rfl⟩ := List.mem_map.mp hx
    obtain ⟨s, _, e', he', hk⟩ := hcs.key_chars he
    exact hk ▸ st_chars_cands nfa s e' he')
  rwa [List.length_map] at h

theorem isTgt_lt {n : NFA} (hwf : NFAWF n) {t : Nat} (h : IsTgt n t) : t < n.length := by
  obtain ⟨s, h⟩ := h
  by_cases hs : s < n.length
  · exact hwf.targets s hs t (Or.inr h)
  · rw [st_eq_empty_of_le (Nat.le_of_not_lt hs)] at h
    simp [NState.empty] at h

theorem epsReach_lt {n : NFA} (hwf : NFAWF n) {s t : Nat} (h : EpsReach n s t) (hs : s < n.length) :
    t < n.length := by
  induction h with
  | refl => exact hs
  | step he _ ih => exact ih (eps_lt hwf he)

theorem keyB_closure {n : NFA} (hwf : NFAWF n) (S : List Nat) (hS : ∀ x ∈ S, x < n.length) :
    KeyB n.length (n.closure S) := by
  refine ⟨ascending_closure hwf S, fun x hx => ?_⟩
  obtain ⟨s, hs, hr⟩ := (mem_closure hwf).mp hx
  exact epsReach_lt hwf hr (hS s hs)

/-- every target collected over states of a well-formed NFA is a state below `n`: what
`NFAWF.targets` says, read off the collected data (`colLt_of_spec`) -/
structure ColLt (n : Nat) (col : Collected) : Prop where
  any : ∀ t ∈ col.any, t < n
  eoi : ∀ t ∈ col.eoi, t < n
  chars : ∀ e ∈ col.chars, ∀ t ∈ e.2, t < n
  ranges : ∀ r ∈ col.ranges, ∀ t ∈ r.2.2, t < n

theorem colLt_of_spec {nfa : NFA} (hwf : NFAWF nfa) {S : List Nat} {col : Collected}
    (hcs : ColSpec nfa S col) : ColLt nfa.length col :=
  ⟨fun t ht => isTgt_lt hwf (hcs.tgt.1 t ht), fun t ht => isTgt_lt hwf (hcs.tgt.2.1 t ht),
    fun e he t ht => isTgt_lt hwf (hcs.tgt.2.2.1 e he t ht), fun r hr t ht => isTgt_lt hwf (hcs.tgt.2.2.2 r hr t ht)⟩

theorem keyB_pushed {nfa : NFA} (hwf : NFAWF nfa) {S : List Nat} {col : Collected} (hcs : ColSpec nfa S col) :
    ∀ k ∈ pushedOf nfa col, KeyB nfa.length k := by
  intro k hk
  obtain ⟨M, hM, rfl⟩ := pushed_closure hcs hk
  exact keyB_closure hwf M fun m hm => isTgt_lt hwf (hM m hm)

theorem length_optL_le (k : List Nat) : (optL k).length ≤ 1 := by
  unfold optL; split
  · exact Nat.zero_le 1
  · exact Nat.le_refl 1

theorem length_pushedOf_le (nfa : NFA) (col : Collected) :
    (pushedOf nfa col).length ≤ col.chars.length + col.ranges.length + 2 := by
  have h1 := length_optL_le (nfa.closure col.eoi)
  have h2 := length_optL_le (nfa.closure col.any)
  unfold pushedOf
  simp only [List.length_append, List.length_reverse, List.length_map]
  omega

theorem length_pushed_lt {nfa : NFA} (hwf : NFAWF nfa) (b : Builder) (d : Nat) (cur : List Nat) :
    (expandState nfa b d cur).2.length + 1 ≤ transBound nfa := by
  have hcl := col_chars_length hwf cur
  have hrl := col_ranges_length hwf cur
  have hpl := length_pushedOf_le nfa (collect nfa cur)
  rw [expandState_pushed, transBound_eq]
  omega

theorem dfa_length_le {nfa : NFA} {b : Builder} (hwf : WFB b) (hk : ∀ e ∈ b.stateMap, KeyB nfa.length e.1) :
    b.dfa.length ≤ 2 ^ nfa.length := by
  have h1 : (b.stateMap.map (·.1)).length ≤ 2 ^ nfa.length :=
    keys_length_le nfa.length _ hwf.1 (fun k hk' => by
      obtain ⟨e, he, rfl⟩ := List.mem_map.mp hk'
      exact hk e he)
  have h2 : (b.stateMap.map (·.2)).length = b.dfa.length := by rw [hwf.2, List.length_range]
  rw [List.length_map] at h1 h2
  exact h2 ▸ h1

theorem finished_length_lt {finished : List Nat} {m d : Nat} (hn : finished.Nodup)
    (hlt : ∀ i ∈ finished, i < m) (hd : d ∉ finished) (hdm : d < m) : finished.length < m := by
  have h := (List.nodup_cons.mpr ⟨hd, hn⟩).length_le_of_subset (l₂ := List.range m)
    (fun x hx => by
      rcases List.mem_cons.mp hx with rfl | hx
      · exact List.mem_range.mpr hdm
      · exact List.mem_range.mpr (hlt x hx))
  rwa [List.length_cons, List.length_range] at h

/-- the fuel left after expanding one of the `P - f` keys not yet expanded, pushing `k < t` items -/
theorem fuel_expand {P f t k w fuel : Nat} (hp : w + 1 + (P - f) * (t + 1) ≤ fuel + 1) (hf : f < P)
    (hk : k + 1 ≤ t) : k + w + (P - (f + 1)) * (t + 1) ≤ fuel := by
  have hsplit : P - f = (P - (f + 1)) + 1 := (Nat.succ_pred_eq_of_pos (Nat.sub_pos_of_lt hf)).symm
  rw [hsplit, Nat.add_mul, Nat.one_mul] at hp
  generalize (P - (f + 1)) * (t + 1) = A at hp ⊢
  omega

/-- The loop ends when the fuel covers the work list plus, for every key not yet expanded, one
expansion and the items it pushes: a skip pops an item, an expansion trades one of the at most
`2 ^ nfa.length` keys for at most `transBound nfa` items. -/
theorem loop_total {nfa : NFA} (hwf : NFAWF nfa) :
    ∀ (fuel : Nat) (wl : List (List Nat)) (finished : List Nat) (b : Builder),
      KInv (KeyB nfa.length) nfa b finished wl → finished.Nodup →
      wl.length + (2 ^ nfa.length - finished.length) * (transBound nfa + 1) ≤ fuel →
      ∃ bf, nfaToDfaLoop nfa fuel wl finished b = some bf := by
  intro fuel
  induction fuel with
  | zero =>
    intro wl finished b _ _ hp
    cases wl with
    | nil => exact ⟨b, rfl⟩
    | cons cur wl => simp only [List.length_cons] at hp; omega
  | succ fuel ih =>
    intro wl finished b hinv hnd hp
    cases wl with
    | nil => exact ⟨b, rfl⟩
    | cons cur wl =>
      rcases he : b.stateOf cur with ⟨b', d⟩
      obtain ⟨rfl, hd⟩ := hinv.stateOf_head he
      rw [loop_cons, he]
      dsimp only
      rw [List.length_cons] at hp
      by_cases hc : d ∈ finished
      · rw [if_pos (List.contains_iff_mem.mpr hc)]
        rw [Nat.add_right_comm] at hp
        exact ih _ _ _ (hinv.skip hd hc) hnd (Nat.le_of_succ_le_succ hp)
      · rw [if_neg (fun hh => hc (List.contains_iff_mem.mp hh))]
        have hflt := finished_length_lt hnd hinv.finlt hc (wfb_idx_lt hinv.wf hd)
        refine ih _ _ _
          (hinv.expand hd hc (keyB_pushed hwf (collect_spec hwf cur)))
          (List.nodup_cons.mpr ⟨hc, hnd⟩) ?_
        rw [List.length_append, List.length_cons]
        exact fuel_expand hp (Nat.lt_of_lt_of_le hflt (dfa_length_le hinv.wf hinv.keys))
          (length_pushed_lt hwf b d cur)

end Lexgen.SubsetTotal

namespace Lexgen
open Lexgen.Subset Lexgen.SubsetTotal

/-- the work-list subset construction terminates within its fuel on every well-formed NFA (the model's `none` = the macro's loop would not end) -/
theorem nfaToDfa_total (nfa : NFA) (hwf : NFAWF nfa) : ∃ d, nfaToDfa nfa = some d := by
  have hk : KeyB nfa.length (nfa.closure [0]) := keyB_closure hwf [0] fun x hx => by
    rw [List.mem_singleton.mp hx]; exact hwf.nonempty
  obtain ⟨bf, hbf⟩ := loop_total hwf (nfaToDfaFuel nfa) [nfa.closure [0]] [] _ (KInv.init hk) List.nodup_nil (by
    unfold nfaToDfaFuel
    simp only [List.length_cons, List.length_nil, Nat.sub_zero]
    omega)
  exact ⟨bf.dfa, nfaToDfa_eq_some.mpr ⟨bf, hbf, rfl⟩⟩

end Lexgen
