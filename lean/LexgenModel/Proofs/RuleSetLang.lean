import LexgenModel.Proofs.Thompson
import LexgenModel.Proofs.Subset
/-!
# Rule-set level language theorem

Composition of the Thompson construction (`addRegex_correct`) and the subset construction
(`nfaToDfa_correct_partial`): the DFA of a rule set accepts, after every word, exactly the rules
whose regex denotes the word, in rule order (`ruleSet_lang`); and `compile_rule_set` builds that
DFA (`compileRuleSet_core`).
-/

namespace Lexgen
namespace RuleSetLang

theorem filterMap_congr' {f g : Nat → Option Acc} {T : List Nat} (h : ∀ u ∈ T, f u = g u) :
    T.filterMap f = T.filterMap g := by
  induction T with
  | nil => rfl
  | cons a T ih =>
    rw [List.filterMap_cons, List.filterMap_cons, h a List.mem_cons_self,
      ih (fun u hu => h u (List.mem_cons_of_mem _ hu))]

theorem filterMap_split (f : Nat → Option Acc) (L : Nat) (S : List Nat) (hS : S.Pairwise (· < ·)) :
    S.filterMap f = (S.filter (fun u => decide (u < L))).filterMap f ++
      (S.filter (fun u => decide (L ≤ u))).filterMap f := by
  induction S with
  | nil => rfl
  | cons a T ih =>
    have hp := List.pairwise_cons.mp hS
    rw [List.filter_cons, List.filter_cons]
    by_cases ha : a < L
    · rw [if_pos (decide_eq_true ha), if_neg fun h => Nat.not_le.mpr ha (of_decide_eq_true h), List.filterMap_cons,
        List.filterMap_cons, ih hp.2]
      cases f a <;> rfl
    · have hT : T.filter (fun u => decide (u < L)) = [] :=
        List.filter_eq_nil_iff.mpr fun u hu h => ha (Nat.lt_trans (hp.1 u hu) (of_decide_eq_true h))
      rw [if_neg fun h => ha (of_decide_eq_true h), if_pos (decide_eq_true (Nat.le_of_not_lt ha)), hT, List.filterMap_cons, List.filterMap_cons,
        ih hp.2, hT]
      rfl

theorem filterMap_single (f : Nat → Option Acc) (L : Nat) (e : Acc) (T : List Nat) (hT : T.Nodup)
    (hnone : ∀ u ∈ T, u ≠ L → f u = none) (hL : f L = some e) :
    T.filterMap f = if L ∈ T then [e] else [] := by
  induction T with
  | nil => rfl
  | cons a T ih =>
    have hn := List.nodup_cons.mp hT
    rw [List.filterMap_cons, ih hn.2 fun u hu => hnone u (List.mem_cons_of_mem _ hu)]
    by_cases ha : a = L
    · subst ha
      rw [hL, if_neg hn.1, if_pos List.mem_cons_self]
    · rw [hnone a List.mem_cons_self ha]
      simp only [List.mem_cons, Ne.symm ha, false_or]

theorem matchingAccs_nil (w : List Sym) : matchingAccs [] w = [] := rfl

open Classical in
theorem matchingAccs_snoc (pre : List CoreRule) (r : CoreRule) (w : List Sym) :
    matchingAccs (pre ++ [r]) w =
      matchingAccs pre w ++ if den r.re w then [{ value := r.value, ctx := r.ctx }] else [] := by
  unfold matchingAccs
  rw [List.filter_append, List.map_append]
  by_cases h : den r.re w <;> simp [h]

open Classical in
theorem matchingAccs_ne_nil {rules : List CoreRule} {r : CoreRule} (hr : r ∈ rules) {z : List Sym}
    (hz : den r.re z) : matchingAccs rules z ≠ [] := by
  unfold matchingAccs
  rw [Ne, List.map_eq_nil_iff, List.filter_eq_nil_iff]
  exact fun h => h r hr (decide_eq_true hz)

/-- every ascending enumeration of the states reachable by `w` lists exactly the accept entries of
the rules matching `w`, in rule order -/
def Inv (rules : List CoreRule) (n : NFA) : Prop :=
  ∀ (w : List Sym) (S : List Nat), S.Pairwise (· < ·) → (∀ u, u ∈ S ↔ NPath n 0 w u) →
    S.filterMap (fun u => (n.st u).acc) = matchingAccs rules w

/-- what the NFA built from `rules` satisfies after each `addRegex` (`built_new`, `built_step`): the hypotheses of
`addRegex_correct` and of `nfaToDfa_correct_partial`, and the accept lists in rule order -/
structure Built (rules : List CoreRule) (n : NFA) : Prop where
  wf : NFAWF n
  shape : Thompson.NFAShape n
  tne : Thompson.TargetsNonempty n
  inv : Inv rules n

theorem npath_lt {n : NFA} (hwf : NFAWF n) {w : List Sym} {u : Nat} (h : NPath n 0 w u) : u < n.length := by
  have h0 := hwf.nonempty
  rcases Thompson.path_end hwf ((Thompson.npath_iff_path n 0 w u).mp h) with h1 | h1
  · omega
  · exact h1

theorem new_acc (u : Nat) : (NFA.new.st u).acc = none := by
  cases u with
  | zero => rfl
  | succ k => rw [Subset.st_eq_empty_of_le (n := NFA.new) (Nat.le_add_left 1 k)]; rfl

theorem built_new : Built [] NFA.new := by
  refine ⟨Thompson.wf_new, Thompson.shape_new, Thompson.targetsNonempty_new, ?_⟩
  intro w S _ _
  rw [matchingAccs_nil]
  exact List.filterMap_eq_nil_iff.mpr fun u _ => new_acc u

theorem built_step {pre : List CoreRule} {n n' : NFA} (hb : Built pre n) (r : CoreRule)
    (hre : regexPiecesOK r.re) (h : n.addRegex r.re r.ctx r.value = .ok n') : Built (pre ++ [r]) n' := by
  obtain ⟨wf', hlen, hacc, hden, haccOld, hpathOld, haccNew⟩ :=
    addRegex_correct n hb.wf hb.shape r.re hre r.ctx r.value n' h
  refine ⟨wf', addRegex_shape n hb.wf hb.shape r.re hre r.ctx r.value n' h,
    addRegex_targetsNonempty n hb.wf hb.tne r.re hre r.ctx r.value n' h, ?_⟩
  intro w S hS hmem
  rw [filterMap_split _ n.length S hS]
  have h1 : (S.filter (fun u => decide (u < n.length))).filterMap (fun u => (n'.st u).acc) =
      matchingAccs pre w := by
    rw [filterMap_congr' fun u hu => haccOld u (of_decide_eq_true (List.mem_filter.mp hu).2)]
    apply hb.inv w _ (hS.filter _)
    intro u
    rw [List.mem_filter, hmem]
    constructor
    · rintro ⟨hp, hu⟩
      exact (hpathOld u w (of_decide_eq_true hu)).mp hp
    · intro hp
      have hu := npath_lt hb.wf hp
      exact ⟨(hpathOld u w hu).mpr hp, decide_eq_true hu⟩
  rw [h1]
  have hT : (S.filter (fun u => decide (n.length ≤ u))).Pairwise (· < ·) := hS.filter _
  have hnone : ∀ u ∈ S.filter (fun u => decide (n.length ≤ u)), u ≠ n.length → (n'.st u).acc = none := by
    intro u hu hne
    have hm := List.mem_filter.mp hu
    have h2 := of_decide_eq_true hm.2
    exact haccNew u (by omega) (npath_lt wf' ((hmem u).mp hm.1))
  have hLmem : n.length ∈ S.filter (fun u => decide (n.length ≤ u)) ↔ den r.re w := by
    rw [List.mem_filter, hmem, hden]
    constructor
    · exact fun h => h.1
    · exact fun h => ⟨h, decide_eq_true (Nat.le_refl _)⟩
  rw [matchingAccs_snoc, filterMap_single _ n.length _ _ (hT.imp Nat.ne_of_lt) hnone hacc]
  by_cases hd : den r.re w
  · rw [if_pos hd, if_pos (hLmem.mpr hd)]
  · rw [if_neg hd, if_neg (mt hLmem.mp hd)]

theorem buildNfa_ind (I : List CoreRule → NFA → Prop) (rules : List CoreRule) (h0 : I [] NFA.new)
    (hstep : ∀ pre n r n', r ∈ rules → I pre n → n.addRegex r.re r.ctx r.value = .ok n' → I (pre ++ [r]) n')
    {nfa : NFA} (h : buildNfa rules = .ok nfa) : I rules nfa := by
  have key : ∀ (rest pre : List CoreRule) (n0 : NFA), (∀ r ∈ rest, r ∈ rules) → I pre n0 →
      rest.foldlM (fun n r => n.addRegex r.re r.ctx r.value) n0 = .ok nfa → I (pre ++ rest) nfa := by
    intro rest
    induction rest with
    | nil =>
      intro pre n0 _ hI h
      cases h
      rw [List.append_nil]
      exact hI
    | cons r rest ih =>
      intro pre n0 hsub hI h
      rw [List.foldlM_cons] at h
      obtain ⟨n1, h1, h2⟩ := bind_eq_ok.mp h
      have := ih (pre ++ [r]) n1 (fun x hx => hsub x (List.mem_cons_of_mem _ hx))
        (hstep pre n0 r n1 (hsub r List.mem_cons_self) hI h1) h2
      rwa [List.append_assoc] at this
  exact key rules [] NFA.new (fun _ h => h) h0 h

theorem built_buildNfa (rules : List CoreRule) (hre : ∀ r ∈ rules, regexPiecesOK r.re) (nfa : NFA)
    (h : buildNfa rules = .ok nfa) : Built rules nfa :=
  buildNfa_ind Built rules built_new (fun _ _ r _ hr hb h => built_step hb r (hre r hr) h) h

/-- the body of the fold in `compileRuleSet` -/
def ruleSetStep (acc : NFA × Bindings × List (DFA Nat)) (item : RuleOrBinding) :
    Except CompileError (NFA × Bindings × List (DFA Nat)) := do
  let (nfa, b, ctxs) := acc
  match item with
  | .rule r => do
    let (nfa, ctxs) ← compileSingleRule nfa r b ctxs
    pure (nfa, b, ctxs)
  | .binding name re =>
    if (b.find? name).isSome then throw (.dupVar name)
    else pure (nfa, b ++ [(name, re)], ctxs)

theorem ruleSetStep_binding (n : NFA) (b : Bindings) (c : List (DFA Nat)) (name : String) (re : Regex) :
    ruleSetStep (n, b, c) (.binding name re) =
      if (b.find? name).isSome then throw (.dupVar name) else pure (n, b ++ [(name, re)], c) := rfl

theorem ruleSetStep_rule (n : NFA) (b : Bindings) (c : List (DFA Nat)) (r : SingleRule) :
    ruleSetStep (n, b, c) (.rule r) = compileSingleRule n r b c >>= fun p => pure (p.1, b, p.2) := rfl

theorem newRightCtx_spec {ctxs : List (DFA Nat)} {b : Bindings} {c : Regex} {ctxs' : List (DFA Nat)} {i : Nat}
    (h : newRightCtx ctxs b c = .ok (ctxs', i)) : ctxs'.length = ctxs.length + 1 ∧ i = ctxs.length := by
  unfold newRightCtx at h
  obtain ⟨re, _, h⟩ := bind_eq_ok.mp h
  obtain ⟨nfa, _, h⟩ := bind_eq_ok.mp h
  cases hd : nfaToDfa nfa with
  | none => rw [hd] at h; cases h
  | some d =>
    rw [hd] at h
    cases h
    exact ⟨by rw [List.length_append, List.length_singleton], rfl⟩

theorem compileSingleRule_spec {n0 n1 : NFA} {r : SingleRule} {b : Bindings} {ctxs c1 : List (DFA Nat)}
    (h : compileSingleRule n0 r b ctxs = .ok (n1, c1)) :
    ∃ re, inlineVars b (b.length + 1) r.re = .ok re ∧
      ((r.ctx = none ∧ c1 = ctxs ∧ n0.addRegex re none r.rhs = .ok n1) ∨
       ((∃ c, r.ctx = some c) ∧ c1.length = ctxs.length + 1 ∧
          n0.addRegex re (some ctxs.length) r.rhs = .ok n1)) := by
  unfold compileSingleRule at h
  cases hc : r.ctx with
  | none =>
    simp only [hc] at h
    obtain ⟨⟨cx, ctx⟩, h0, h⟩ := bind_eq_ok.mp h
    cases h0
    obtain ⟨re, hre, h⟩ := bind_eq_ok.mp h
    obtain ⟨n1', hadd, h⟩ := bind_eq_ok.mp h
    cases h
    exact ⟨re, hre, Or.inl ⟨rfl, rfl, hadd⟩⟩
  | some c =>
    simp only [hc] at h
    obtain ⟨⟨cx', i⟩, hn, h⟩ := bind_eq_ok.mp h
    obtain ⟨⟨cx, ctx⟩, h0, h⟩ := bind_eq_ok.mp h
    cases h0
    obtain ⟨re, hre, h⟩ := bind_eq_ok.mp h
    obtain ⟨n1', hadd, h⟩ := bind_eq_ok.mp h
    cases h
    obtain ⟨hl, hi⟩ := newRightCtx_spec hn
    subst hi
    exact ⟨re, hre, Or.inr ⟨⟨c, rfl⟩, hl, hadd⟩⟩

theorem fold_core (items : List RuleOrBinding) : ∀ (n0 : NFA) (b : Bindings) (ctxs : List (DFA Nat))
    (n : NFA) (b' : Bindings) (ctxs' : List (DFA Nat)),
    items.foldlM ruleSetStep (n0, b, ctxs) = .ok (n, b', ctxs') →
    ∃ rules, coreRules items b ctxs.length = some rules ∧
      rules.foldlM (fun n r => n.addRegex r.re r.ctx r.value) n0 = .ok n := by
  induction items with
  | nil =>
    intro n0 b ctxs n b' ctxs' h
    rw [List.foldlM_nil] at h
    cases h
    exact ⟨[], rfl, rfl⟩
  | cons item rest ih =>
    intro n0 b ctxs n b' ctxs' h
    rw [List.foldlM_cons] at h
    obtain ⟨⟨n1, b1, c1⟩, h1, h2⟩ := bind_eq_ok.mp h
    cases item with
    | binding name re =>
      rw [ruleSetStep_binding] at h1
      split at h1
      · cases h1
      · cases h1
        obtain ⟨rules, hr, hf⟩ := ih _ _ _ _ _ _ h2
        exact ⟨rules, by rw [coreRules]; exact hr, hf⟩
    | rule r =>
      rw [ruleSetStep_rule] at h1
      obtain ⟨⟨n1', c1'⟩, hc, h1⟩ := bind_eq_ok.mp h1
      cases h1
      obtain ⟨rules, hr, hf⟩ := ih _ _ _ _ _ _ h2
      obtain ⟨re, hre, hcase⟩ := compileSingleRule_spec hc
      rcases hcase with ⟨hctx, hc1, hadd⟩ | ⟨⟨c, hctx⟩, hc1, hadd⟩
      · subst hc1
        refine ⟨{ re := re, ctx := none, value := r.rhs } :: rules, ?_, ?_⟩
        · simp only [coreRules, hre, hctx, hr, Option.map_some]
        · rw [List.foldlM_cons, hadd]
          exact hf
      · rw [hc1] at hr
        refine ⟨{ re := re, ctx := some ctxs.length, value := r.rhs } :: rules, ?_, ?_⟩
        · simp only [coreRules, hre, hctx, hr, Option.map_some]
        · rw [List.foldlM_cons, hadd]
          exact hf

theorem compileRuleSet_inv {items : List RuleOrBinding} {b : Bindings} {ctxs ctxs' : List (DFA Nat)}
    {d : DFA Nat} (h : compileRuleSet items b ctxs = .ok (d, ctxs')) :
    ∃ n b', items.foldlM ruleSetStep (NFA.new, b, ctxs) = .ok (n, b', ctxs') ∧ nfaToDfa n = some d := by
  unfold compileRuleSet at h
  obtain ⟨⟨n, b', c'⟩, hf, h⟩ := bind_eq_ok.mp h
  dsimp only at h
  cases hd : nfaToDfa n with
  | none => rw [hd] at h; cases h
  | some d' =>
    rw [hd] at h
    cases h
    exact ⟨n, b', hf, hd⟩

end RuleSetLang

open RuleSetLang in
/-- The DFA of a rule set accepts, after any word over the extended alphabet, exactly the rules
whose regex denotes that word, listed in rule order (= priority order); when it is dead no rule
matches. -/
theorem ruleSet_lang (rules : List CoreRule) (hre : ∀ r ∈ rules, regexPiecesOK r.re) (nfa : NFA)
    (h : buildNfa rules = .ok nfa) (d : DFA Nat) (hd : nfaToDfa nfa = some d) (w : List Sym) :
    match reachSym d 0 w with
    | some t => (d.st t).accepting = matchingAccs rules w
    | none => matchingAccs rules w = [] := by
  have hb := built_buildNfa rules hre nfa h
  have hsc := (nfaToDfa_correct_partial nfa hb.wf ((Thompson.targetsNonempty_iff nfa).mp hb.tne) d hd).1 w
  cases hr : reachSym d 0 w with
  | some t =>
    rw [hr] at hsc
    obtain ⟨S, hasc, _, hmem, hacc⟩ := hsc
    show (d.st t).accepting = matchingAccs rules w
    rw [hacc]
    exact hb.inv w S (Subset.ascending_iff_pairwise.mp hasc) hmem
  | none =>
    rw [hr] at hsc
    show matchingAccs rules w = []
    have := hb.inv w [] List.Pairwise.nil (fun u => ⟨fun hu => (by cases hu), fun hp => absurd hp (hsc u)⟩)
    rw [← this]
    rfl

open RuleSetLang in
/-- `compile_rule_set` builds exactly that NFA and DFA from the rule set's items -/
theorem compileRuleSet_core (items : List RuleOrBinding) (b : Bindings) (ctxs : List (DFA Nat)) (d : DFA Nat)
    (ctxs' : List (DFA Nat)) (h : compileRuleSet items b ctxs = .ok (d, ctxs')) :
    ∃ rules nfa, coreRules items b ctxs.length = some rules ∧ buildNfa rules = .ok nfa ∧
      nfaToDfa nfa = some d := by
  obtain ⟨n, b', hf, hd⟩ := compileRuleSet_inv h
  obtain ⟨rules, hr, hfold⟩ := fold_core items _ _ _ _ _ _ hf
  exact ⟨rules, n, hr, hfold, hd⟩

end Lexgen
