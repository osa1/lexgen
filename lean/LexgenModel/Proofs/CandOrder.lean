import LexgenModel.Spec.RefLexer
/-!
# The order on matches, and the language-level matches of a rule set

`candLe` is antisymmetric and a rule set has at most one match `(n, ·, e)` for given `n` and `e`: together
they make the `Selects`-maximal match unique.
-/
namespace Lexgen

theorem candLe_of_lt {n n' : Nat} (e e' : Bool) (h : n < n') : candLe n e n' e' := Or.inl h

theorem candLe_antisymm {n n' : Nat} {e e' : Bool} (h : candLe n e n' e') (h' : candLe n' e' n e) :
    n = n' ∧ e = e' := by
  rcases h with h | ⟨rfl, he⟩
  · rcases h' with h' | ⟨rfl, _⟩
    · exact absurd h (Nat.lt_asymm h')
    · exact absurd h (Nat.lt_irrefl _)
  · rcases h' with h' | ⟨_, he'⟩
    · exact absurd h' (Nat.lt_irrefl _)
    · exact ⟨rfl, Bool.eq_iff_iff.mpr ⟨he, he'⟩⟩

theorem candLe_succ {k' k : Nat} {e' e : Bool} (h : candLe k' e' k e) : candLe (k' + 1) e' (k + 1) e := by
  rcases h with h | ⟨h1, h2⟩
  · exact Or.inl (Nat.succ_lt_succ h)
  · exact Or.inr ⟨congrArg (· + 1) h1, h2⟩

variable {rules : List CoreRule} {ctxAt : Nat → Regex} {iter : List Nat} {n a : Nat} {e : Bool}

theorem langCand_false_iff :
    LangCand rules ctxAt iter n a false ↔
      n ≤ iter.length ∧ firstLang ctxAt (iter.drop n) (matchingAccs rules ((iter.take n).map Sym.ch)) = some a :=
  Iff.rfl

theorem langCand_true_iff :
    LangCand rules ctxAt iter n a true ↔
      n = iter.length ∧ firstLang ctxAt [] (matchingAccs rules (iter.map Sym.ch ++ [Sym.eoi])) = some a :=
  ⟨fun h => h.2, fun h => ⟨Nat.le_of_eq h.1, h⟩⟩

theorem langCand_true_length (h : LangCand rules ctxAt iter n a true) : n = iter.length :=
  (langCand_true_iff.mp h).1

theorem langCand_fun {a' : Nat} (h : LangCand rules ctxAt iter n a e) (h' : LangCand rules ctxAt iter n a' e) :
    a = a' := by
  cases e with
  | true => exact Option.some.inj ((langCand_true_iff.mp h).2.symm.trans (langCand_true_iff.mp h').2)
  | false => exact Option.some.inj ((langCand_false_iff.mp h).2.symm.trans (langCand_false_iff.mp h').2)

/-- the maximal match of a definition on an input is unique: maximal munch with first-rule priority is a function -/
theorem selects_unique (rules : List CoreRule) (ctxAt : Nat → Regex) (iter : List Nat) (n a n' a' : Nat) (e e' : Bool)
    (h : Selects rules ctxAt iter n a e) (h' : Selects rules ctxAt iter n' a' e') : n = n' ∧ a = a' ∧ e = e' := by
  obtain ⟨rfl, rfl⟩ := candLe_antisymm (h'.2 n a e h.1) (h.2 n' a' e' h'.1)
  exact ⟨rfl, langCand_fun h.1 h'.1, rfl⟩

end Lexgen
