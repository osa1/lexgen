import LexgenModel.Spec.Machine
import LexgenModel.Proofs.Dispatch
import LexgenModel.Proofs.MaxMunch
/-!
# One call of `next()`, characterised

For a well-formed machine the model of the generated code is described once, without its text
(`callAction_spec`, `scan_spec`, `next_spec`, `nextLoop_total`, `nextLoop_congr`). These are the only
inductions on the fuel; everything else about `next()` is a rule induction on `NextSpec`.

Of the relations that describe a call, `ScanOut` (Proofs/MaxMunch.lean) is the induction over the input, for
any state, with or without a saved match; `ScanSpec` is what it says at a lexeme boundary of a `MachineOK`
machine, and is used only to prove `next_spec`; `NextSpec` is the one to induct on for a property of the
generated code on any `MachineOK` machine; `RefNext` (Spec/RefLexer.lean) speaks of the definition instead
of the machine, and is what `next_refines_ref` concludes for compiled definitions.

A property of the generated code is stated for any `MachineOK cfg`, from a `Ready` state (the first one:
`initState_ready`). It then holds of every compiled well-formed definition by `compileLexer_machineOK`,
and of every machine that passed the executable checker by `machineOK_of_checker`.
-/
namespace Lexgen

variable {σ τ ε : Type}

/-- The lexer state after a semantic action with effect `eff`, the match now starting at `cs`:
`switch` sets both `__state` and `__initial_state`, otherwise `__state` returns to the initial state. -/
def callSt {ρ : Type} (cfg : Config σ τ ε) (eff : Effect σ ρ) (st : LState σ) (cs : Loc) : LState σ :=
  { st with user := eff.user, curStart := cs,
            state := eff.switchTo.elim st.initial (switchNum cfg),
            initial := eff.switchTo.elim st.initial (switchNum cfg) }

theorem callAction_spec (cfg : Config σ τ ε) (a : Nat) (st : LState σ) {eff : Effect σ (Except ε τ)}
    (he : (cfg.actions a).run (mkView cfg a st) = eff) :
    callAction cfg a st =
      match eff.res with
      | none => .cont (callSt cfg eff st (if eff.reset then st.curEnd else st.curStart))
      | some (.ok t) =>
        .ret (some (.tok (if eff.reset then st.curEnd else st.curStart) t st.curEnd)) (callSt cfg eff st st.curEnd)
      | some (.error x) =>
        .ret (some (.custom (if eff.reset then st.curEnd else st.curStart) x)) (callSt cfg eff st st.curEnd) := by
  unfold callAction
  rw [he]
  obtain ⟨u, rs, sw, res⟩ := eff
  cases rs <;> cases sw <;> rcases res with _ | (_ | _) <;> rfl

theorem callAction_state (cfg : Config σ τ ε) (a : Nat) (st : LState σ) (n : Nat) :
    callAction cfg a { st with state := n } = callAction cfg a st := by
  rw [callAction_spec cfg a st rfl, callAction_spec cfg a { st with state := n } rfl]
  rfl

theorem finish_act (cfg : Config σ τ ε) (a : Nat) (st : LState σ) (k : Nat) (e : Bool) (n : Nat) :
    finish cfg (.act a (matchState cfg.width st k e n)) = callAction cfg a (matchState cfg.width st k e 0) :=
  callAction_state cfg a (matchState cfg.width st k e 0) n

theorem callAction_cont {cfg : Config σ τ ε} {a : Nat} {st st1 : LState σ} (h : callAction cfg a st = .cont st1) :
    ((cfg.actions a).run (mkView cfg a st)).res = none ∧
    st1 = callSt cfg ((cfg.actions a).run (mkView cfg a st)) st
      (if ((cfg.actions a).run (mkView cfg a st)).reset then st.curEnd else st.curStart) := by
  rw [callAction_spec cfg a st rfl] at h
  split at h <;> cases h
  exact ⟨‹_›, rfl⟩

theorem callAction_ret {cfg : Config σ τ ε} {a : Nat} {st st' : LState σ} {item : Option (Item τ ε)}
    (h : callAction cfg a st = .ret item st') :
    st' = callSt cfg ((cfg.actions a).run (mkView cfg a st)) st st.curEnd ∧
    ∃ cs, (cs = st.curStart ∨ cs = st.curEnd) ∧ ((∃ t, item = some (.tok cs t st.curEnd)) ∨ ∃ x, item = some (.custom cs x)) := by
  have hcs : ∀ b : Bool, (if b then st.curEnd else st.curStart) = st.curStart ∨
      (if b then st.curEnd else st.curStart) = st.curEnd := by
    intro b
    cases b
    · exact Or.inl rfl
    · exact Or.inr rfl
  rw [callAction_spec cfg a st rfl] at h
  split at h <;> cases h
  · exact ⟨rfl, _, hcs _, Or.inl ⟨_, rfl⟩⟩
  · exact ⟨rfl, _, hcs _, Or.inr ⟨_, rfl⟩⟩

/-! In the namespace `NextProtocol`, which Proofs/NextProtocol.lean continues: the facts `Ready` is proved from. -/

namespace NextProtocol

theorem renumber_zero (inl : List Nat) : renumber inl 0 = 0 := by
  unfold renumber
  exact Nat.zero_sub _

theorem isEntry_props (cfg : Config σ τ ε) (hm : MachineOK cfg) (e : Nat) (he : IsEntry cfg e) :
    e < cfg.dfa.length ∧ (cfg.dfa.st e).initial = true ∧ (cfg.dfa.st e).accepting = [] := by
  rcases he with rfl | ⟨name, hmem⟩
  · exact hm.state0
  · exact hm.entries (name, e) hmem

theorem dispatch_entry (cfg : Config σ τ ε) (hm : MachineOK cfg) (e : Nat) (he : IsEntry cfg e) :
    dispatch (stateArms cfg.dfa cfg.inl) (renumber cfg.inl e) = some e := by
  obtain ⟨hlt, hini, _⟩ := isEntry_props cfg hm e he
  exact dispatch_correct cfg.dfa cfg.inl hm.inl e hlt (hasArm_of_initial cfg.dfa cfg.inl hm.inl e hini)

/-- `switch` stores the number of an entry state (0 for an unknown name) -/
theorem switchNum_entry (cfg : Config σ τ ε) (r : String) :
    ∃ e, IsEntry cfg e ∧ switchNum cfg r = renumber cfg.inl e := by
  unfold switchNum
  cases hf : (switchTable cfg.inl cfg.entries).find? (·.1 = r) with
  | none => exact ⟨0, Or.inl rfl, (renumber_zero _).symm⟩
  | some p =>
    have hmem := List.mem_of_find?_eq_some hf
    unfold switchTable at hmem
    obtain ⟨x, hx, rfl⟩ := List.mem_map.1 hmem
    exact ⟨x.2, Or.inr ⟨x.1, hx⟩, rfl⟩

end NextProtocol

open NextProtocol

theorem initState_ready (cfg : Config σ τ ε) (user : σ) (input : List Nat) : Ready cfg (initState user input) :=
  ⟨rfl, rfl, 0, Or.inl rfl, (renumber_zero _).symm⟩

theorem callSt_ready {ρ : Type} (cfg : Config σ τ ε) (eff : Effect σ ρ) (st : LState σ) (cs : Loc) (hl : st.last = none)
    (hi : ∃ e, IsEntry cfg e ∧ st.initial = renumber cfg.inl e) : Ready cfg (callSt cfg eff st cs) := by
  refine ⟨hl, rfl, ?_⟩
  unfold callSt
  cases eff.switchTo with
  | none => exact hi
  | some r => exact switchNum_entry cfg r

theorem ready_arm {cfg : Config σ τ ε} (hm : MachineOK cfg) {st : LState σ} (hr : Ready cfg st) {s : Nat}
    (hs : dispatch (stateArms cfg.dfa cfg.inl) st.state = some s) :
    IsEntry cfg s ∧ st.state = renumber cfg.inl s := by
  obtain ⟨_, _, e0, he0, hst0⟩ := hr
  rw [hst0, dispatch_entry cfg hm e0 he0] at hs
  exact Option.some.inj hs ▸ ⟨he0, hst0⟩

theorem ready_of_cont {cfg : Config σ τ ε} (hm : MachineOK cfg) {st st1 : LState σ} (hr : Ready cfg st) {s k a : Nat}
    {e : Bool} (hs : dispatch (stateArms cfg.dfa cfg.inl) st.state = some s)
    (hc : callAction cfg a (matchState cfg.width st k e 0) = .cont st1) : Ready cfg st1 :=
  (callAction_cont hc).2 ▸ callSt_ready cfg _ _ _ rfl ⟨s, (ready_arm hm hr hs).1, hr.2.1 ▸ (ready_arm hm hr hs).2⟩

/-- at an entry the empty string is no match: the greatest match consumes a character or goes through `$` -/
theorem Best.progress {cfg : Config σ τ ε} {s : Nat} {iter : List Nat} {k a : Nat} {e : Bool}
    (h : Best cfg s iter k a e) (hacc : (cfg.dfa.st s).accepting = []) : 0 < k ∨ e = true := by
  cases k with
  | succ k => exact Or.inl (Nat.succ_pos k)
  | zero =>
    cases e with
    | true => exact Or.inr rfl
    | false =>
      have := (cand_zero_iff cfg s iter a).mp h.1
      rw [hacc] at this
      cases this

theorem dispatchOK_of_machineOK (cfg : Config σ τ ε) (h : MachineOK cfg) :
    DispatchOK cfg.dfa cfg.inl (dispatch (stateArms cfg.dfa cfg.inl)) := by
  intro t ht hi
  exact dispatch_correct cfg.dfa cfg.inl h.inl t ht (hasArm_of_not_inlinedAt cfg.inl t hi)

theorem scan_eq_scanPlain_of_machineOK (cfg : Config σ τ ε) (hm : MachineOK cfg) (s : Nat) (st : LState σ)
    (hlast : st.last = none) :
    scan cfg (dispatch (stateArms cfg.dfa cfg.inl)) s st.iter st =
      scanPlain cfg (dispatch (stateArms cfg.dfa cfg.inl)) s st.iter st :=
  scan_eq_scanPlain cfg _ hm.flags hm.acceptAny hm.targets (dispatchOK_of_machineOK cfg hm) s st.iter st
    fun h => nomatch hlast ▸ h

theorem noStray_of_machineOK {cfg : Config σ τ ε} (hm : MachineOK cfg) : NoStray cfg.dfa := by
  refine ⟨fun q c h => ?_, hm.eoiAccept⟩
  have hi := ScanPlain.targets_not_initial cfg.dfa hm.targets q 0
    (ScanPlain.goto_mem_gotoSuccs _ 0 (lookupTrans_mem_succs _ _ _ h))
  rw [hm.state0.2.1] at hi
  cases hi

inductive ScanSpec (cfg : Config σ τ ε) (s : Nat) (st : LState σ) : Outcome σ → Prop
  | act {k a : Nat} {e : Bool} (n : Nat) : Best cfg s st.iter k a e →
      ScanSpec cfg s st (.act a (matchState cfg.width st k e n))
  | err : NoCand cfg s st.iter → ¬ (s = 0 ∧ st.iter = []) → ScanSpec cfg s st (.err st.curStart (errSt cfg s st))
  | fin : NoCand cfg s st.iter → s = 0 → st.iter = [] → ScanSpec cfg s st (.fin { st with done := true })

theorem scan_spec {cfg : Config σ τ ε} (hm : MachineOK cfg) (s : Nat) (st : LState σ)
    (hl : st.last = none) (hd : st.done = false) :
    ScanSpec cfg s st (scan cfg (dispatch (stateArms cfg.dfa cfg.inl)) s st.iter st) := by
  rw [scan_eq_scanPlain_of_machineOK cfg hm s st hl]
  have ho := scanPlain_out cfg _ hm.targets (dispatchOK_of_machineOK cfg hm) st.iter s st rfl
  generalize scanPlain cfg _ s st.iter st = o at ho ⊢
  cases ho with
  | act n d hb hd' =>
    rcases hd' with rfl | ⟨rfl, rfl⟩
    · exact .act n hb
    · rw [hd]
      exact .act n hb
  | fail n hno hne =>
    rw [failPlain_stopSt hl hd]
    exact .err hno hne
  | fin h0 hit hno =>
    subst h0
    rw [setAccepting_nil cfg _ st hm.state0.2.2]
    refine .fin (fun k a e hc => ?_) rfl hit
    rw [hit] at hc
    cases cand_nil_inv cfg 0 k a e hc
    cases e with
    | true => exact hno a hc
    | false =>
      have := (cand_zero_iff cfg 0 [] a).mp hc
      rw [hm.state0.2.2] at this
      cases this
  | strayFin _ h => exact absurd (noStray_of_machineOK hm) h
  | strayGoto _ h => exact absurd (noStray_of_machineOK hm) h


theorem nextLoop_succ (cfg : Config σ τ ε) (fuel : Nat) (st : LState σ) :
    nextLoop cfg (fuel + 1) st =
      if st.done then some (none, st)
      else match dispatch (stateArms cfg.dfa cfg.inl) st.state with
        | none => none
        | some s =>
          match finish cfg (scan cfg (dispatch (stateArms cfg.dfa cfg.inl)) s st.iter st) with
          | .ret item st' => some (item, st')
          | .cont st' => nextLoop cfg fuel st' := by
  rw [nextLoop]
  rfl

/-- One call of `next()` from a lexer state with nothing saved, in terms of what the machine matches
(`Best`, `NoCand`) and what the semantic actions answer; `s` is the state whose arm `__state` selects. -/
inductive NextSpec (cfg : Config σ τ ε) : LState σ → Option (Item τ ε) × LState σ → Prop
  | done {st : LState σ} : st.done = true → NextSpec cfg st (none, st)
  | ret {st : LState σ} {s k a : Nat} {e : Bool} {item : Option (Item τ ε)} {st' : LState σ} :
      st.done = false → dispatch (stateArms cfg.dfa cfg.inl) st.state = some s → Best cfg s st.iter k a e →
      callAction cfg a (matchState cfg.width st k e 0) = .ret item st' → NextSpec cfg st (item, st')
  | cont {st : LState σ} {s k a : Nat} {e : Bool} {st1 : LState σ} {r : Option (Item τ ε) × LState σ} :
      st.done = false → dispatch (stateArms cfg.dfa cfg.inl) st.state = some s → Best cfg s st.iter k a e →
      callAction cfg a (matchState cfg.width st k e 0) = .cont st1 → NextSpec cfg st1 r → NextSpec cfg st r
  | invalid {st : LState σ} {s : Nat} :
      st.done = false → dispatch (stateArms cfg.dfa cfg.inl) st.state = some s → NoCand cfg s st.iter →
      ¬ (s = 0 ∧ st.iter = []) → NextSpec cfg st (some (.invalid st.curStart), errSt cfg s st)
  | eof {st : LState σ} :
      st.done = false → dispatch (stateArms cfg.dfa cfg.inl) st.state = some 0 → NoCand cfg 0 st.iter →
      st.iter = [] → NextSpec cfg st (none, { st with done := true })

theorem nextLoop_spec {cfg : Config σ τ ε} (hm : MachineOK cfg) :
    ∀ (fuel : Nat) (st : LState σ) (r : Option (Item τ ε) × LState σ), st.last = none →
      nextLoop cfg fuel st = some r → NextSpec cfg st r := by
  intro fuel
  induction fuel with
  | zero =>
    intro st r _ h
    cases h
  | succ f ih =>
    intro st r hl h
    rw [nextLoop_succ] at h
    cases hd : st.done with
    | true =>
      rw [hd, if_pos rfl] at h
      cases h
      exact .done hd
    | false =>
      rw [hd, if_neg Bool.false_ne_true] at h
      cases hs : dispatch (stateArms cfg.dfa cfg.inl) st.state with
      | none =>
        rw [hs] at h
        cases h
      | some s =>
        rw [hs] at h
        dsimp only at h
        have hsp := scan_spec hm s st hl hd
        generalize scan cfg _ s st.iter st = o at hsp h
        cases hsp with
        | @act k a e n hb =>
          rw [finish_act] at h
          cases hc : callAction cfg a (matchState cfg.width st k e 0) with
          | ret item st' =>
            rw [hc] at h
            cases h
            exact .ret hd hs hb hc
          | cont st1 =>
            rw [hc] at h
            refine .cont hd hs hb hc (ih st1 r ?_ h)
            rw [(callAction_cont hc).2]
            rfl
        | err hno hne =>
          cases h
          exact .invalid hd hs hno hne
        | fin hno h0 hit =>
          cases h
          subst h0
          exact .eof hd hs hno hit

theorem next_spec {cfg : Config σ τ ε} (hm : MachineOK cfg) {st : LState σ} (hl : st.last = none)
    {r : Option (Item τ ε) × LState σ} (h : next cfg st = some r) : NextSpec cfg st r :=
  nextLoop_spec hm _ st r hl h

/-- With fuel above `|iter| + (if done then 0 else 1)` the loop returns: every round that does not
return has shortened the iterator or handled the end of input. -/
theorem nextLoop_total {cfg : Config σ τ ε} (hm : MachineOK cfg) :
    ∀ (fuel : Nat) (st : LState σ), Ready cfg st → st.iter.length < fuel →
      (st.done = false → st.iter.length + 1 < fuel) → ∃ r, nextLoop cfg fuel st = some r := by
  intro fuel
  induction fuel with
  | zero =>
    intro st _ h _
    exact absurd h (Nat.not_lt_zero _)
  | succ f ih =>
    intro st hr hlen hnd
    rw [nextLoop_succ]
    cases hd : st.done with
    | true => exact ⟨_, if_pos rfl⟩
    | false =>
      obtain ⟨hl, hsi, e0, he0, hst0⟩ := hr
      rw [if_neg Bool.false_ne_true, hst0, dispatch_entry cfg hm e0 he0]
      dsimp only
      have hsp := scan_spec hm e0 st hl hd
      generalize scan cfg _ e0 st.iter st = o at hsp
      cases hsp with
      | err => exact ⟨_, rfl⟩
      | fin => exact ⟨_, rfl⟩
      | @act k a e n hb =>
        rw [finish_act]
        cases hc : callAction cfg a (matchState cfg.width st k e 0) with
        | ret item st' => exact ⟨_, rfl⟩
        | cont st1 =>
          obtain ⟨_, rfl⟩ := callAction_cont hc
          have hlen' : st.iter.length < f := Nat.lt_of_succ_lt_succ (hnd hd)
          refine ih _ (callSt_ready cfg _ _ _ rfl ⟨e0, he0, hsi ▸ hst0⟩) ?_ (fun hde => ?_)
          · show (st.iter.drop k).length < f
            rw [List.length_drop]
            exact Nat.lt_of_le_of_lt (Nat.sub_le _ _) hlen'
          · show (st.iter.drop k).length + 1 < f
            rw [List.length_drop]
            rcases hb.progress (isEntry_props cfg hm e0 he0).2.2 with hk | hk
            · exact Nat.lt_of_le_of_lt (Nat.sub_lt (Nat.lt_of_lt_of_le hk hb.1.1) hk) hlen'
            · cases hk ▸ hde

theorem scan_congr {cfg cfg' : Config σ τ ε} (hd : cfg'.dfa = cfg.dfa) (hc : cfg'.ctxs = cfg.ctxs)
    (hi : cfg'.inl = cfg.inl) (hw : cfg'.width = cfg.width) (ns : Nat → Option Nat) :
    ∀ (iter : List Nat) (s : Nat) (st : LState σ), scan cfg' ns s iter st = scan cfg ns s iter st := by
  obtain ⟨d, cs, en, il, ac, w, inp⟩ := cfg
  obtain ⟨d', cs', en', il', ac', w', inp'⟩ := cfg'
  cases hd
  cases hc
  cases hi
  cases hw
  intro iter
  induction iter with
  | nil => exact fun s st => rfl
  | cons c rest ih =>
    intro s st
    rw [ScanPlain.scan_cons, ScanPlain.scan_cons]
    have hg : ∀ st1 : LState σ,
        ScanPlain.gotoK (scan ⟨d, cs, en', il, ac', w, inp'⟩ ns) ⟨d, cs, en', il, ac', w, inp'⟩ ns rest st1 =
          ScanPlain.gotoK (scan ⟨d, cs, en, il, ac, w, inp⟩ ns) ⟨d, cs, en, il, ac, w, inp⟩ ns rest st1 := by
      intro st1
      funext t
      unfold ScanPlain.gotoK
      simp only [ih]
    simp only [hg]
    rfl

theorem nextLoop_congr {cfg cfg' : Config σ τ ε} (hd : cfg'.dfa = cfg.dfa) (hi : cfg'.inl = cfg.inl)
    (P : LState σ → Prop)
    (hstep : ∀ st s, P st → st.done = false → dispatch (stateArms cfg.dfa cfg.inl) st.state = some s →
      execState cfg' (dispatch (stateArms cfg.dfa cfg.inl)) s st.iter st =
        execState cfg (dispatch (stateArms cfg.dfa cfg.inl)) s st.iter st ∧
      ∀ st1, execState cfg (dispatch (stateArms cfg.dfa cfg.inl)) s st.iter st = .cont st1 → P st1) :
    ∀ (fuel : Nat) (st : LState σ), P st → nextLoop cfg' fuel st = nextLoop cfg fuel st := by
  intro fuel
  induction fuel with
  | zero => exact fun _ _ => rfl
  | succ f ih =>
    intro st hp
    rw [nextLoop_succ, nextLoop_succ, hd, hi]
    cases hdn : st.done with
    | true => rw [if_pos rfl, if_pos rfl]
    | false =>
      rw [if_neg Bool.false_ne_true, if_neg Bool.false_ne_true]
      cases hs : dispatch (stateArms cfg.dfa cfg.inl) st.state with
      | none => exact Eq.refl none
      | some s =>
        obtain ⟨he, hP⟩ := hstep st s hp hdn hs
        show (match execState cfg' _ s st.iter st with
          | .ret item st' => some (item, st')
          | .cont st' => nextLoop cfg' f st') =
          match execState cfg _ s st.iter st with
          | .ret item st' => some (item, st')
          | .cont st' => nextLoop cfg f st'
        rw [he]
        cases hx : execState cfg (dispatch (stateArms cfg.dfa cfg.inl)) s st.iter st with
        | ret item st' => exact Eq.refl (some (item, st'))
        | cont st1 => exact ih st1 (hP st1 hx)

end Lexgen
