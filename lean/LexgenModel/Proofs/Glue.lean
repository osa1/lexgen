import LexgenModel.Spec.Compile
import LexgenModel.Spec.StaticOK
import LexgenModel.Proofs.ExceptInv
/-!
# The stages of the model of `lexer()`

`rsStep`, `lexStep` and `lexPost` are copies, letter for letter, of the anonymous functions in
`compileRuleSet` and `compileLexer` (Model/Compile.lean), named so that lemmas can speak of them:
`compileRuleSet_eq` and `compileLexer_eq` hold by `rfl` up to a case split, and stop holding if the
model's text and the copy here drift apart. Proofs about `compileLexer` go through the equations and
inversions of the stages and never unfold the model.
-/
namespace Lexgen

theorem find?_some_mem {b : Bindings} {n : String} {r : Regex} (h : b.find? n = some r) : (n, r) ∈ b := by
  induction b with
  | nil => cases h
  | cons p b ih =>
    obtain ⟨k, v⟩ := p
    simp only [Bindings.find?] at h
    by_cases hk : k = n
    · rw [if_pos hk] at h
      cases h
      exact hk ▸ List.mem_cons_self
    · rw [if_neg hk] at h
      exact List.mem_cons_of_mem _ (ih h)

theorem find?_isSome_iff (b : Bindings) (n : String) :
    (Bindings.find? b n).isSome = true ↔ n ∈ boundNames b := by
  induction b with
  | nil => exact ⟨nofun, nofun⟩
  | cons p b ih =>
    obtain ⟨k, v⟩ := p
    show (if k = n then some v else Bindings.find? b n).isSome = true ↔ n ∈ k :: boundNames b
    rw [List.mem_cons]
    by_cases hk : k = n
    · rw [if_pos hk]
      exact ⟨fun _ => .inl hk.symm, fun _ => rfl⟩
    · rw [if_neg hk, ih]
      exact ⟨.inr, fun h => h.resolve_left fun e => hk e.symm⟩

theorem entries_isSome_iff (l : List (String × Nat)) (n : String) :
    (l.find? (·.1 = n)).isSome = true ↔ n ∈ l.map (·.1) := by
  rw [List.find?_isSome]
  simp only [decide_eq_true_eq, List.mem_map]

section Fold
variable {σ α ε : Type} {f : σ → α → Except ε σ} {R : List α → σ → Prop} {Q : List α → α → Prop}

theorem foldlM_splits {E : ε → Prop}
    (hstep : ∀ p g x, R p g → Q p x →
      (∀ e, f g x = .error e → E e) ∧ ∀ g', f g x = .ok g' → R (p ++ [x]) g') :
    ∀ (l p : List α) (g : σ), R p g → (∀ pre x post, l = pre ++ x :: post → Q (p ++ pre) x) →
      (∀ e, l.foldlM f g = .error e → E e) ∧ ∀ g', l.foldlM f g = .ok g' → R (p ++ l) g' := by
  intro l
  induction l with
  | nil =>
    intro p g hR _
    refine ⟨fun e h => (nomatch h), fun g' h => ?_⟩
    cases h
    rw [List.append_nil]
    exact hR
  | cons x l ih =>
    intro p g hR hQ
    obtain ⟨herr, hok⟩ := hstep p g x hR (by simpa using hQ [] x l rfl)
    have ih' := fun g1 hx => ih (p ++ [x]) g1 (hok g1 hx) fun pre y post e => by
      simpa using hQ (x :: pre) y post (by rw [e]; rfl)
    rw [List.append_assoc, List.singleton_append] at ih'
    rw [List.foldlM_cons]
    refine ⟨fun e h => ?_, fun g' h => ?_⟩
    · rcases bind_eq_error.mp h with h | ⟨g1, hx, h⟩
      · exact herr e h
      · exact (ih' g1 hx).1 e h
    · obtain ⟨g1, hx, h⟩ := bind_eq_ok.mp h
      exact (ih' g1 hx).2 g' h

theorem foldlM_ok_splits
    (hstep : ∀ p g x g', R p g → f g x = .ok g' → Q p x ∧ R (p ++ [x]) g') :
    ∀ (l p : List α) (g g' : σ), R p g → l.foldlM f g = .ok g' →
      (∀ pre x post, l = pre ++ x :: post → Q (p ++ pre) x) ∧ R (p ++ l) g' := by
  intro l
  induction l with
  | nil =>
    intro p g g' hR h
    cases h
    refine ⟨fun pre x post e => ?_, by rw [List.append_nil]; exact hR⟩
    cases pre <;> cases e
  | cons x l ih =>
    intro p g g' hR h
    rw [List.foldlM_cons] at h
    obtain ⟨g1, hx, h⟩ := bind_eq_ok.mp h
    obtain ⟨hQ, hR1⟩ := hstep p g x g1 hR hx
    obtain ⟨hQs, hR'⟩ := ih (p ++ [x]) g1 g' hR1 h
    refine ⟨fun pre y post e => ?_, by simpa using hR'⟩
    cases pre with
    | nil => cases e; simpa using hQ
    | cons z pre => cases e; simpa using hQs pre y post rfl

theorem foldlM_ok_inv (hstep : ∀ p g x g', R p g → f g x = .ok g' → R (p ++ [x]) g')
    {l p : List α} {g g' : σ} (hR : R p g) (h : l.foldlM f g = .ok g') : R (p ++ l) g' :=
  (foldlM_ok_splits (Q := fun _ _ => True) (fun p g x g' hR h => ⟨trivial, hstep p g x g' hR h⟩)
    l p g g' hR h).2

theorem foldlM_singleton_ok {a b : σ} {x : α} (h : f a x = .ok b) : [x].foldlM f a = .ok b := by
  rw [List.foldlM_cons, h]
  rfl

end Fold

namespace Static

theorem newRightCtx_eq_ok {ctxs c1 : List (DFA Nat)} {b : Bindings} {c : Regex} {i : Nat} :
    newRightCtx ctxs b c = .ok (c1, i) ↔ ∃ re nfa d, inlineVars b (b.length + 1) c = .ok re ∧
      NFA.new.addRegex re none 0 = .ok nfa ∧ nfaToDfa nfa = some d ∧ c1 = ctxs ++ [d] ∧ i = ctxs.length := by
  unfold newRightCtx
  constructor
  · intro h
    obtain ⟨re, hre, h⟩ := bind_eq_ok.mp h
    obtain ⟨nfa, hn, h⟩ := bind_eq_ok.mp h
    cases hd : nfaToDfa nfa with
    | none => rw [hd] at h; cases h
    | some d => rw [hd] at h; cases h; exact ⟨re, nfa, d, hre, hn, hd, rfl, rfl⟩
  · rintro ⟨re, nfa, d, hre, hn, hd, rfl, rfl⟩
    refine bind_eq_ok.mpr ⟨re, hre, bind_eq_ok.mpr ⟨nfa, hn, ?_⟩⟩
    rw [hd]
    rfl

theorem compileSingleRule_eq (nfa : NFA) (r : SingleRule) (b : Bindings) (ctxs : List (DFA Nat)) :
    compileSingleRule nfa r b ctxs =
      match r.ctx with
      | none => inlineVars b (b.length + 1) r.re >>= fun re =>
          nfa.addRegex re none r.rhs >>= fun n => pure (n, ctxs)
      | some c => newRightCtx ctxs b c >>= fun x => inlineVars b (b.length + 1) r.re >>= fun re =>
          nfa.addRegex re (some x.2) r.rhs >>= fun n => pure (n, x.1) := by
  unfold compileSingleRule
  cases r.ctx <;> rfl

theorem compileSingleRule_eq_ok {nfa n1 : NFA} {r : SingleRule} {b : Bindings} {ctxs c1 : List (DFA Nat)} :
    compileSingleRule nfa r b ctxs = .ok (n1, c1) ↔
      ∃ re, inlineVars b (b.length + 1) r.re = .ok re ∧
        ((r.ctx = none ∧ c1 = ctxs ∧ nfa.addRegex re none r.rhs = .ok n1) ∨
         (∃ c i, r.ctx = some c ∧ newRightCtx ctxs b c = .ok (c1, i) ∧
            nfa.addRegex re (some i) r.rhs = .ok n1)) := by
  rw [compileSingleRule_eq]
  cases hc : r.ctx with
  | none =>
    constructor
    · intro h
      obtain ⟨re, hre, h⟩ := bind_eq_ok.mp h
      obtain ⟨n, hn, h⟩ := bind_eq_ok.mp h
      cases h
      exact ⟨re, hre, .inl ⟨rfl, rfl, hn⟩⟩
    · rintro ⟨re, hre, ⟨_, rfl, hn⟩ | ⟨c, _, h, _⟩⟩
      · exact bind_eq_ok.mpr ⟨re, hre, bind_eq_ok.mpr ⟨n1, hn, rfl⟩⟩
      · cases h
  | some c =>
    constructor
    · intro h
      obtain ⟨⟨c1', i⟩, hx, h⟩ := bind_eq_ok.mp h
      obtain ⟨re, hre, h⟩ := bind_eq_ok.mp h
      obtain ⟨n, hn, h⟩ := bind_eq_ok.mp h
      cases h
      exact ⟨re, hre, .inr ⟨c, i, rfl, hx, hn⟩⟩
    · rintro ⟨re, hre, ⟨h, _⟩ | ⟨c', i, h, hx, hn⟩⟩
      · cases h
      · cases h
        exact bind_eq_ok.mpr ⟨_, hx, bind_eq_ok.mpr ⟨re, hre, bind_eq_ok.mpr ⟨n1, hn, rfl⟩⟩⟩

theorem compileSingleRule_eq_error {nfa : NFA} {r : SingleRule} {b : Bindings} {ctxs : List (DFA Nat)}
    {e : CompileError} (h : compileSingleRule nfa r b ctxs = .error e) :
    (∃ c, r.ctx = some c ∧ newRightCtx ctxs b c = .error e) ∨
    inlineVars b (b.length + 1) r.re = .error e ∨
    ∃ re ctx, inlineVars b (b.length + 1) r.re = .ok re ∧ nfa.addRegex re ctx r.rhs = .error e := by
  rw [compileSingleRule_eq] at h
  cases hc : r.ctx with
  | none =>
    rw [hc] at h
    rcases bind_eq_error.mp h with h | ⟨re, hre, h⟩
    · exact .inr (.inl h)
    · rcases bind_eq_error.mp h with h | ⟨_, _, h⟩
      · exact .inr (.inr ⟨re, _, hre, h⟩)
      · cases h
  | some c =>
    rw [hc] at h
    rcases bind_eq_error.mp h with h | ⟨x, _, h⟩
    · exact .inl ⟨c, rfl, h⟩
    · rcases bind_eq_error.mp h with h | ⟨re, hre, h⟩
      · exact .inr (.inl h)
      · rcases bind_eq_error.mp h with h | ⟨_, _, h⟩
        · exact .inr (.inr ⟨re, _, hre, h⟩)
        · cases h

def rsStep (acc : NFA × Bindings × List (DFA Nat)) (item : RuleOrBinding) :
    Except CompileError (NFA × Bindings × List (DFA Nat)) := do
      let (nfa, b, ctxs) := acc
      match item with
      | .rule r => do
        let (nfa, ctxs) ← compileSingleRule nfa r b ctxs
        pure (nfa, b, ctxs)
      | .binding name re =>
        if (b.find? name).isSome then throw (.dupVar name)
        else pure (nfa, b ++ [(name, re)], ctxs)

theorem compileRuleSet_eq (rules : List RuleOrBinding) (b : Bindings) (ctxs : List (DFA Nat)) :
    compileRuleSet rules b ctxs =
      (rules.foldlM rsStep (NFA.new, b, ctxs) >>= fun acc =>
        match nfaToDfa acc.1 with
        | none => .error (.internal "nfa_to_dfa")
        | some d => .ok (d, acc.2.2)) := by
  unfold compileRuleSet
  refine congrArg (bind _) (funext fun acc => ?_)
  obtain ⟨nfa, b', c⟩ := acc
  dsimp only
  -- left as it is, `rfl` would try to evaluate the subset construction on both sides
  generalize nfaToDfa nfa = o
  cases o <;> rfl

theorem compileRuleSet_eq_ok {rules : List RuleOrBinding} {b : Bindings} {ctxs ctxs' : List (DFA Nat)}
    {d : DFA Nat} : compileRuleSet rules b ctxs = .ok (d, ctxs') ↔
      ∃ nfa b', rules.foldlM rsStep (NFA.new, b, ctxs) = .ok (nfa, b', ctxs') ∧ nfaToDfa nfa = some d := by
  rw [compileRuleSet_eq]
  constructor
  · intro h
    obtain ⟨⟨nfa, b', c⟩, hf, h⟩ := bind_eq_ok.mp h
    cases hd : nfaToDfa nfa with
    | none => simp only [hd] at h; cases h
    | some d' => simp only [hd] at h; cases h; exact ⟨nfa, b', hf, hd⟩
  · rintro ⟨nfa, b', hf, hd⟩
    refine bind_eq_ok.mpr ⟨_, hf, ?_⟩
    simp only [hd]

theorem compileRuleSet_eq_error {rules : List RuleOrBinding} {b : Bindings} {ctxs : List (DFA Nat)}
    {e : CompileError} (h : compileRuleSet rules b ctxs = .error e) :
    rules.foldlM rsStep (NFA.new, b, ctxs) = .error e ∨
    ∃ acc, rules.foldlM rsStep (NFA.new, b, ctxs) = .ok acc ∧ nfaToDfa acc.1 = none ∧
      e = .internal "nfa_to_dfa" := by
  rw [compileRuleSet_eq] at h
  rcases bind_eq_error.mp h with h | ⟨acc, hf, h⟩
  · exact .inl h
  · cases hd : nfaToDfa acc.1 with
    | none => simp only [hd] at h; cases h; exact .inr ⟨acc, hf, hd, rfl⟩
    | some d => simp only [hd] at h; cases h

theorem rsStep_rule (acc : NFA × Bindings × List (DFA Nat)) (r : SingleRule) :
    rsStep acc (.rule r) =
      (compileSingleRule acc.1 r acc.2.1 acc.2.2 >>= fun p => .ok (p.1, acc.2.1, p.2)) := rfl

theorem rsStep_binding (acc : NFA × Bindings × List (DFA Nat)) (n : String) (re : Regex) :
    rsStep acc (.binding n re) =
      if (acc.2.1.find? n).isSome = true then .error (.dupVar n)
      else .ok (acc.1, acc.2.1 ++ [(n, re)], acc.2.2) := rfl

theorem rsStep_rule_eq_ok {acc acc' : NFA × Bindings × List (DFA Nat)} {r : SingleRule} :
    rsStep acc (.rule r) = .ok acc' ↔ ∃ nfa ctxs,
      compileSingleRule acc.1 r acc.2.1 acc.2.2 = .ok (nfa, ctxs) ∧ acc' = (nfa, acc.2.1, ctxs) := by
  rw [rsStep_rule, bind_eq_ok]
  exact ⟨fun ⟨p, hp, h⟩ => ⟨p.1, p.2, hp, by cases h; rfl⟩,
    fun ⟨nfa, ctxs, hp, h⟩ => ⟨_, hp, by rw [h]⟩⟩

theorem rsStep_rule_eq_error {acc : NFA × Bindings × List (DFA Nat)} {r : SingleRule} {e : CompileError} :
    rsStep acc (.rule r) = .error e ↔ compileSingleRule acc.1 r acc.2.1 acc.2.2 = .error e := by
  rw [rsStep_rule, bind_eq_error]
  exact ⟨fun h => h.elim id fun ⟨_, _, h⟩ => (nomatch h), Or.inl⟩

theorem rsStep_binding_eq_ok {acc acc' : NFA × Bindings × List (DFA Nat)} {n : String} {re : Regex} :
    rsStep acc (.binding n re) = .ok acc' ↔
      (acc.2.1.find? n).isSome = false ∧ acc' = (acc.1, acc.2.1 ++ [(n, re)], acc.2.2) := by
  rw [rsStep_binding, guard_eq_ok]

theorem rsStep_binding_eq_error {acc : NFA × Bindings × List (DFA Nat)} {n : String} {re : Regex}
    {e : CompileError} :
    rsStep acc (.binding n re) = .error e ↔ (acc.2.1.find? n).isSome = true ∧ e = .dupVar n := by
  rw [rsStep_binding, guard_eq_error]

def lexStep (g : GlueState) (item : TopItem) : Except CompileError GlueState := do
      match item with
      | .errorType =>
        if g.errorType then throw .dupErrorType else pure { g with errorType := true }
      | .rb (.binding name re) =>
        if (g.bindings.find? name).isSome then throw (.dupVar name)
        else pure { g with bindings := g.bindings ++ [(name, re)] }
      | .rb (.rule r) => do
        let (nfa, ctxs) ← compileSingleRule g.unnamed r g.bindings g.ctxs
        pure { g with unnamed := nfa, ctxs := ctxs }
      | .ruleSet name rules => do
        let (g, idx) ←
          if name = "Init" then do
            let (d, ctxs) ← compileRuleSet rules g.bindings g.ctxs
            pure ({ g with initDfa := some d, ctxs := ctxs }, 0)
          else
            match g.initDfa with
            | none => throw .firstNotInit
            | some d0 => do
              let (d, ctxs) ← compileRuleSet rules g.bindings g.ctxs
              let (d', idx) := addDfa d0 d
              pure ({ g with initDfa := some d', ctxs := ctxs }, idx)
        if (g.entries.find? (·.1 = name)).isSome then throw (.dupRuleSet name)
        else pure { g with entries := g.entries ++ [(name, idx)] }

def lexPost (g : GlueState) : Except CompileError Compiled := do
  let dfa ← match g.initDfa with
    | some d => pure d
    | none => match nfaToDfa g.unnamed with
      | some d => pure d
      | none => throw (.internal "nfa_to_dfa")
  let full ← match updateBacktracks dfa with
    | some d => pure d
    | none => throw (.internal "update_backtracks")
  let (simp, entries) ← simplify full g.entries
  pure { full := full, entries0 := g.entries, dfa := simp, entries := entries, ctxs := g.ctxs }

theorem compileLexer_eq (items : LexerDef) :
    compileLexer items = if mixedRules items = true then .error .mixedRules else (items.foldlM lexStep {} >>= lexPost) := by
  unfold compileLexer
  by_cases hm : mixedRules items = true
  · rw [if_pos hm, if_pos hm]; rfl
  · rw [if_neg hm, if_neg hm]
    refine congrArg (bind _) (funext fun g => ?_)
    unfold lexPost
    generalize nfaToDfa g.unnamed = o
    rfl

theorem compileLexer_eq_ok {items : LexerDef} {c : Compiled} :
    compileLexer items = .ok c ↔
      mixedRules items = false ∧ ∃ g, items.foldlM lexStep {} = .ok g ∧ lexPost g = .ok c := by
  rw [compileLexer_eq]
  cases mixedRules items with
  | true => exact ⟨nofun, fun h => nomatch h.1⟩
  | false => exact ⟨fun h => ⟨rfl, bind_eq_ok.mp h⟩, fun h => bind_eq_ok.mpr h.2⟩

theorem compileLexer_eq_error {items : LexerDef} {e : CompileError} :
    compileLexer items = .error e ↔
      (mixedRules items = true ∧ e = .mixedRules) ∨
      (mixedRules items = false ∧ (items.foldlM lexStep {} = .error e ∨
        ∃ g, items.foldlM lexStep {} = .ok g ∧ lexPost g = .error e)) := by
  rw [compileLexer_eq]
  cases mixedRules items with
  | true =>
    exact ⟨fun h => .inl ⟨rfl, by cases h; rfl⟩, fun h => h.elim (fun h => by rw [h.2]; rfl) fun h => nomatch h.1⟩
  | false =>
    exact ⟨fun h => .inr ⟨rfl, bind_eq_error.mp h⟩, fun h => h.elim (fun h => nomatch h.1) fun h => bind_eq_error.mpr h.2⟩

theorem lexStep_errorType (g : GlueState) :
    lexStep g .errorType = if g.errorType = true then .error .dupErrorType else .ok { g with errorType := true } := rfl

theorem lexStep_binding (g : GlueState) (n : String) (re : Regex) :
    lexStep g (.rb (.binding n re)) =
      if (g.bindings.find? n).isSome = true then .error (.dupVar n)
      else .ok { g with bindings := g.bindings ++ [(n, re)] } := rfl

theorem lexStep_rule (g : GlueState) (r : SingleRule) :
    lexStep g (.rb (.rule r)) =
      (compileSingleRule g.unnamed r g.bindings g.ctxs >>= fun p =>
        .ok { g with unnamed := p.1, ctxs := p.2 }) := rfl

def lexRS (g : GlueState) (name : String) (rules : List RuleOrBinding) : Except CompileError (GlueState × Nat) :=
  if name = "Init" then
    compileRuleSet rules g.bindings g.ctxs >>= fun q => .ok ({ g with initDfa := some q.1, ctxs := q.2 }, 0)
  else
    match g.initDfa with
    | none => .error .firstNotInit
    | some d0 =>
      compileRuleSet rules g.bindings g.ctxs >>= fun q =>
        .ok ({ g with initDfa := some (addDfa d0 q.1).1, ctxs := q.2 }, (addDfa d0 q.1).2)

theorem lexStep_ruleSet (g : GlueState) (name : String) (rules : List RuleOrBinding) :
    lexStep g (.ruleSet name rules) =
      (lexRS g name rules >>= fun p =>
        if (p.1.entries.find? (·.1 = name)).isSome = true then .error (.dupRuleSet name)
        else .ok { p.1 with entries := p.1.entries ++ [(name, p.2)] }) := by
  unfold lexRS
  by_cases hn : name = "Init"
  · rw [if_pos hn]
    show (if name = "Init" then _ else _) = _
    rw [if_pos hn]
    cases h : compileRuleSet rules g.bindings g.ctxs with
    | error e => rfl
    | ok q => rfl
  · rw [if_neg hn]
    show (if name = "Init" then _ else _) = _
    rw [if_neg hn]
    cases hd : g.initDfa with
    | none => rfl
    | some d0 =>
      cases h : compileRuleSet rules g.bindings g.ctxs with
      | error e => rfl
      | ok q => rfl

theorem lexStep_errorType_eq_ok {g g' : GlueState} :
    lexStep g .errorType = .ok g' ↔ g.errorType = false ∧ g' = { g with errorType := true } := by
  rw [lexStep_errorType, guard_eq_ok]

theorem lexStep_errorType_eq_error {g : GlueState} {e : CompileError} :
    lexStep g .errorType = .error e ↔ g.errorType = true ∧ e = .dupErrorType := by
  rw [lexStep_errorType, guard_eq_error]

theorem lexStep_binding_eq_ok {g g' : GlueState} {n : String} {re : Regex} :
    lexStep g (.rb (.binding n re)) = .ok g' ↔
      (g.bindings.find? n).isSome = false ∧ g' = { g with bindings := g.bindings ++ [(n, re)] } := by
  rw [lexStep_binding, guard_eq_ok]

theorem lexStep_binding_eq_error {g : GlueState} {n : String} {re : Regex} {e : CompileError} :
    lexStep g (.rb (.binding n re)) = .error e ↔ (g.bindings.find? n).isSome = true ∧ e = .dupVar n := by
  rw [lexStep_binding, guard_eq_error]

theorem lexStep_rule_eq_ok {g g' : GlueState} {r : SingleRule} :
    lexStep g (.rb (.rule r)) = .ok g' ↔ ∃ nfa ctxs,
      compileSingleRule g.unnamed r g.bindings g.ctxs = .ok (nfa, ctxs) ∧
      g' = { g with unnamed := nfa, ctxs := ctxs } := by
  rw [lexStep_rule, bind_eq_ok]
  exact ⟨fun ⟨p, hp, h⟩ => ⟨p.1, p.2, hp, by cases h; rfl⟩,
    fun ⟨nfa, ctxs, hp, h⟩ => ⟨_, hp, by rw [h]⟩⟩

theorem lexStep_rule_eq_error {g : GlueState} {r : SingleRule} {e : CompileError} :
    lexStep g (.rb (.rule r)) = .error e ↔ compileSingleRule g.unnamed r g.bindings g.ctxs = .error e := by
  rw [lexStep_rule, bind_eq_error]
  exact ⟨fun h => h.elim id fun ⟨_, _, h⟩ => (nomatch h), Or.inl⟩

theorem lexStep_ruleSet_eq_ok {g g' : GlueState} {n : String} {rs : List RuleOrBinding} :
    lexStep g (.ruleSet n rs) = .ok g' ↔ ∃ d ctxs full idx,
      compileRuleSet rs g.bindings g.ctxs = .ok (d, ctxs) ∧
      (g.entries.find? (·.1 = n)).isSome = false ∧
      g' = { g with initDfa := some full, ctxs := ctxs, entries := g.entries ++ [(n, idx)] } ∧
      (n = "Init" ∧ full = d ∧ idx = 0 ∨
       n ≠ "Init" ∧ ∃ d0, g.initDfa = some d0 ∧ full = (addDfa d0 d).1 ∧ idx = d0.length) := by
  rw [lexStep_ruleSet, bind_eq_ok]
  unfold lexRS
  by_cases hn : n = "Init"
  · rw [if_pos hn]
    constructor
    · rintro ⟨p, hp, h⟩
      obtain ⟨⟨d, ctxs⟩, hc, hp⟩ := bind_eq_ok.mp hp
      cases hp
      obtain ⟨hf, rfl⟩ := guard_eq_ok.mp h
      exact ⟨d, ctxs, d, 0, hc, hf, rfl, .inl ⟨hn, rfl, rfl⟩⟩
    · rintro ⟨d, ctxs, full, idx, hc, hf, rfl, ⟨_, rfl, rfl⟩ | ⟨hn', _⟩⟩
      · exact ⟨_, bind_eq_ok.mpr ⟨_, hc, rfl⟩, guard_eq_ok.mpr ⟨hf, rfl⟩⟩
      · exact absurd hn hn'
  · rw [if_neg hn]
    constructor
    · rintro ⟨p, hp, h⟩
      cases hd : g.initDfa with
      | none => rw [hd] at hp; cases hp
      | some d0 =>
        rw [hd] at hp
        obtain ⟨⟨d, ctxs⟩, hc, hp⟩ := bind_eq_ok.mp hp
        cases hp
        obtain ⟨hf, rfl⟩ := guard_eq_ok.mp h
        exact ⟨d, ctxs, _, _, hc, hf, rfl, .inr ⟨hn, d0, rfl, rfl, rfl⟩⟩
    · rintro ⟨d, ctxs, full, idx, hc, hf, rfl, ⟨hn', _⟩ | ⟨_, d0, hd, rfl, rfl⟩⟩
      · exact absurd hn' hn
      · rw [hd]
        exact ⟨_, bind_eq_ok.mpr ⟨_, hc, rfl⟩, guard_eq_ok.mpr ⟨hf, rfl⟩⟩

theorem lexStep_ruleSet_eq_error {g : GlueState} {n : String} {rs : List RuleOrBinding} {e : CompileError}
    (h : lexStep g (.ruleSet n rs) = .error e) :
    (n ≠ "Init" ∧ g.initDfa = none ∧ e = .firstNotInit) ∨
    compileRuleSet rs g.bindings g.ctxs = .error e ∨
    ((g.entries.find? (·.1 = n)).isSome = true ∧ e = .dupRuleSet n) := by
  rw [lexStep_ruleSet] at h
  unfold lexRS at h
  have hbind : ∀ {k : DFA Nat × List (DFA Nat) → Except CompileError (GlueState × Nat)},
      (∀ q p, k q = .ok p → p.1.entries = g.entries) → (∀ q e', k q ≠ .error e') →
      ((compileRuleSet rs g.bindings g.ctxs >>= k) >>= fun p =>
        if (p.1.entries.find? (·.1 = n)).isSome = true then .error (.dupRuleSet n)
        else .ok { p.1 with entries := p.1.entries ++ [(n, p.2)] }) = .error e →
      compileRuleSet rs g.bindings g.ctxs = .error e ∨
        ((g.entries.find? (·.1 = n)).isSome = true ∧ e = .dupRuleSet n) := by
    intro k hk hk' h
    rcases bind_eq_error.mp h with h | ⟨p, hp, h⟩
    · rcases bind_eq_error.mp h with h | ⟨q, _, h⟩
      · exact .inl h
      · exact absurd h (hk' q e)
    · obtain ⟨q, _, hq⟩ := bind_eq_ok.mp hp
      rw [hk q p hq] at h
      exact .inr (guard_eq_error.mp h)
  by_cases hn : n = "Init"
  · rw [if_pos hn] at h
    exact .inr (hbind (fun _ _ h => by cases h; rfl) (fun _ _ h => by cases h) h)
  · rw [if_neg hn] at h
    cases hd : g.initDfa with
    | none => rw [hd] at h; cases h; exact .inl ⟨hn, rfl, rfl⟩
    | some d0 =>
      rw [hd] at h
      exact .inr (hbind (fun _ _ h => by cases h; rfl) (fun _ _ h => by cases h) h)

theorem lexPost_eq (g : GlueState) : lexPost g =
    ((match g.initDfa with
      | some d => Except.ok d
      | none => match nfaToDfa g.unnamed with
        | some d => .ok d
        | none => .error (.internal "nfa_to_dfa")) >>= fun dfa =>
     (match updateBacktracks dfa with
      | some d => Except.ok d
      | none => .error (.internal "update_backtracks")) >>= fun full =>
     simplify full g.entries >>= fun x =>
       .ok { full := full, entries0 := g.entries, dfa := x.1, entries := x.2, ctxs := g.ctxs }) := by
  unfold lexPost
  cases g.initDfa with
  | some d =>
    simp only [bind, Except.bind, pure, Except.pure]
    cases updateBacktracks d <;> rfl
  | none =>
    generalize nfaToDfa g.unnamed = o
    cases o with
    | none => rfl
    | some d =>
      simp only [bind, Except.bind, pure, Except.pure]
      cases updateBacktracks d <;> rfl

theorem lexPost_eq_ok {g : GlueState} {c : Compiled} :
    lexPost g = .ok c ↔ ∃ d0 full s es,
      (g.initDfa = some d0 ∨ g.initDfa = none ∧ nfaToDfa g.unnamed = some d0) ∧
      updateBacktracks d0 = some full ∧ simplify full g.entries = .ok (s, es) ∧
      c = { full := full, entries0 := g.entries, dfa := s, entries := es, ctxs := g.ctxs } := by
  rw [lexPost_eq]
  constructor
  · intro h
    obtain ⟨d0, h0, h⟩ := bind_eq_ok.mp h
    obtain ⟨full, h1, h⟩ := bind_eq_ok.mp h
    obtain ⟨⟨s, es⟩, h2, h⟩ := bind_eq_ok.mp h
    refine ⟨d0, full, s, es, ?_, ?_, h2, by cases h; rfl⟩
    · cases hi : g.initDfa with
      | some d => rw [hi] at h0; cases h0; exact .inl rfl
      | none =>
        rw [hi] at h0
        cases hn : nfaToDfa g.unnamed with
        | none => rw [hn] at h0; cases h0
        | some d => rw [hn] at h0; cases h0; exact .inr ⟨rfl, rfl⟩
    · cases hu : updateBacktracks d0 with
      | none => rw [hu] at h1; cases h1
      | some d => rw [hu] at h1; cases h1; rfl
  · rintro ⟨d0, full, s, es, h0, h1, h2, rfl⟩
    refine bind_eq_ok.mpr ⟨d0, ?_, bind_eq_ok.mpr ⟨full, by rw [h1], bind_eq_ok.mpr ⟨_, h2, rfl⟩⟩⟩
    rcases h0 with h0 | ⟨h0, hn⟩
    · rw [h0]
    · rw [h0, hn]

theorem lexPost_eq_error {g : GlueState} {e : CompileError} (h : lexPost g = .error e) :
    (g.initDfa = none ∧ nfaToDfa g.unnamed = none ∧ e = .internal "nfa_to_dfa") ∨
    ∃ d0, (g.initDfa = some d0 ∨ g.initDfa = none ∧ nfaToDfa g.unnamed = some d0) ∧
      (updateBacktracks d0 = none ∧ e = .internal "update_backtracks" ∨
       ∃ full, updateBacktracks d0 = some full ∧ simplify full g.entries = .error e) := by
  rw [lexPost_eq] at h
  rcases bind_eq_error.mp h with h | ⟨d0, hd0, h⟩
  · left
    cases hi : g.initDfa with
    | some d => rw [hi] at h; cases h
    | none =>
      rw [hi] at h
      cases hn : nfaToDfa g.unnamed with
      | some d => rw [hn] at h; cases h
      | none => rw [hn] at h; cases h; exact ⟨rfl, rfl, rfl⟩
  · refine .inr ⟨d0, ?_, ?_⟩
    · cases hi : g.initDfa with
      | some d => rw [hi] at hd0; cases hd0; exact .inl rfl
      | none =>
        rw [hi] at hd0
        cases hn : nfaToDfa g.unnamed with
        | none => rw [hn] at hd0; cases hd0
        | some d => rw [hn] at hd0; cases hd0; exact .inr ⟨rfl, rfl⟩
    · rcases bind_eq_error.mp h with h | ⟨full, hfull, h⟩
      · cases hu : updateBacktracks d0 with
        | some d => rw [hu] at h; cases h
        | none => rw [hu] at h; cases h; exact .inl ⟨rfl, rfl⟩
      · cases hu : updateBacktracks d0 with
        | none => rw [hu] at hfull; cases hfull
        | some d =>
          rw [hu] at hfull
          cases hfull
          rcases bind_eq_error.mp h with h | ⟨_, _, h⟩
          · exact .inr ⟨full, rfl, h⟩
          · cases h

theorem compileLexer_ok_decomp {items : LexerDef} {c : Compiled} (h : compileLexer items = .ok c) :
    mixedRules items = false ∧ ∃ g d0, items.foldlM lexStep {} = .ok g ∧
      (g.initDfa = some d0 ∨ g.initDfa = none ∧ nfaToDfa g.unnamed = some d0) ∧
      updateBacktracks d0 = some c.full ∧ simplify c.full g.entries = .ok (c.dfa, c.entries) ∧
      c.entries0 = g.entries ∧ c.ctxs = g.ctxs := by
  obtain ⟨hm, g, hfold, hpost⟩ := compileLexer_eq_ok.mp h
  obtain ⟨d0, full, s, es, hd, hu, hs, rfl⟩ := lexPost_eq_ok.mp hpost
  exact ⟨hm, g, d0, hfold, hd, hu, hs, rfl, rfl⟩

theorem lexStep_ok_cases {R : GlueState → TopItem → GlueState → Prop} {g g' : GlueState} {x : TopItem}
    (h : lexStep g x = .ok g')
    (errorType : g.errorType = false → R g .errorType { g with errorType := true })
    (binding : ∀ n re, (g.bindings.find? n).isSome = false →
      R g (.rb (.binding n re)) { g with bindings := g.bindings ++ [(n, re)] })
    (rule : ∀ r nfa ctxs, compileSingleRule g.unnamed r g.bindings g.ctxs = .ok (nfa, ctxs) →
      R g (.rb (.rule r)) { g with unnamed := nfa, ctxs := ctxs })
    (ruleSet : ∀ n rs d ctxs full idx, compileRuleSet rs g.bindings g.ctxs = .ok (d, ctxs) →
      (g.entries.find? (·.1 = n)).isSome = false →
      (n = "Init" ∧ full = d ∧ idx = 0 ∨
       n ≠ "Init" ∧ ∃ d0, g.initDfa = some d0 ∧ full = (addDfa d0 d).1 ∧ idx = d0.length) →
      R g (.ruleSet n rs) { g with initDfa := some full, ctxs := ctxs, entries := g.entries ++ [(n, idx)] }) :
    R g x g' := by
  cases x with
  | errorType =>
    obtain ⟨he, rfl⟩ := lexStep_errorType_eq_ok.mp h
    exact errorType he
  | rb x =>
    cases x with
    | binding n re =>
      obtain ⟨hb, rfl⟩ := lexStep_binding_eq_ok.mp h
      exact binding n re hb
    | rule r =>
      obtain ⟨nfa, ctxs, hc, rfl⟩ := lexStep_rule_eq_ok.mp h
      exact rule r nfa ctxs hc
  | ruleSet n rs =>
    obtain ⟨d, ctxs, full, idx, hc, hf, rfl, hcase⟩ := lexStep_ruleSet_eq_ok.mp h
    exact ruleSet n rs d ctxs full idx hc hf hcase

theorem lexFold_induction {R : LexerDef → GlueState → Prop} {items p0 : LexerDef} {g0 g : GlueState}
    (h : items.foldlM lexStep g0 = .ok g) (start : R p0 g0)
    (errorType : ∀ p g, R p g → g.errorType = false → R (p ++ [.errorType]) { g with errorType := true })
    (binding : ∀ p g n re, R p g → (g.bindings.find? n).isSome = false →
      R (p ++ [.rb (.binding n re)]) { g with bindings := g.bindings ++ [(n, re)] })
    (rule : ∀ p g r nfa ctxs, R p g → compileSingleRule g.unnamed r g.bindings g.ctxs = .ok (nfa, ctxs) →
      R (p ++ [.rb (.rule r)]) { g with unnamed := nfa, ctxs := ctxs })
    (ruleSet : ∀ p g n rs d ctxs full idx, R p g → compileRuleSet rs g.bindings g.ctxs = .ok (d, ctxs) →
      (g.entries.find? (·.1 = n)).isSome = false →
      (n = "Init" ∧ full = d ∧ idx = 0 ∨
       n ≠ "Init" ∧ ∃ d0, g.initDfa = some d0 ∧ full = (addDfa d0 d).1 ∧ idx = d0.length) →
      R (p ++ [.ruleSet n rs])
        { g with initDfa := some full, ctxs := ctxs, entries := g.entries ++ [(n, idx)] }) :
    R (p0 ++ items) g :=
  foldlM_ok_inv (fun p g _ _ hR hx =>
    lexStep_ok_cases (R := fun _ x g' => R (p ++ [x]) g') hx (errorType p g hR) (binding p g · · hR)
      (rule p g · · · hR) (ruleSet p g · · · · · · hR)) start h

end Static
end Lexgen
