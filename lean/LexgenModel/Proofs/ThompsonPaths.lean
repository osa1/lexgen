import LexgenModel.Proofs.ThompsonEdges
/-!
# Thompson construction: paths over an abstract labelled edge relation

`Path E s w t` generalises `NPath n s w t` (`E = Edge n`), so that the ε-edges a gadget adds can be
analysed in any convenient order. The key result is `path_addEps`: the paths after adding one
ε-edge `s → t` are the old paths, possibly going round the new edge any number of times.
-/

namespace Lexgen
namespace Thompson

def lbl : Option Sym → List Sym
  | none => []
  | some y => [y]

abbrev Rel := Nat → Option Sym → Nat → Prop

variable {E E' : Rel} {L L' : List Sym → Prop}

inductive Path (E : Rel) : Nat → List Sym → Nat → Prop
  | refl (s : Nat) : Path E s [] s
  | step {s t u : Nat} {x : Option Sym} {w : List Sym} : E s x t → Path E t w u → Path E s (lbl x ++ w) u

theorem Path.eps {s t u : Nat} {w : List Sym} (h : E s none t) (p : Path E t w u) : Path E s w u :=
  Path.step h p

theorem Path.sym {s t u : Nat} {y : Sym} {w : List Sym} (h : E s (some y) t) (p : Path E t w u) :
    Path E s (y :: w) u :=
  Path.step h p

theorem npath_iff_path (n : NFA) (s : Nat) (w : List Sym) (t : Nat) : NPath n s w t ↔ Path (Edge n) s w t := by
  constructor
  · intro h
    induction h with
    | refl s => exact Path.refl s
    | eps h _ ih => exact Path.eps (edge_eps.mpr h) ih
    | sym h _ ih => exact Path.sym (edge_sym.mpr h) ih
  · intro h
    induction h with
    | refl s => exact NPath.refl s
    | @step s t u x w h _ ih =>
      cases x with
      | none => exact NPath.eps (edge_eps.mp h) ih
      | some y => exact NPath.sym (edge_sym.mp h) ih

theorem Path.trans {a b c : Nat} {u v : List Sym} (h1 : Path E a u b) (h2 : Path E b v c) :
    Path E a (u ++ v) c := by
  induction h1 with
  | refl s => exact h2
  | step h _ ih =>
    rw [List.append_assoc]
    exact Path.step h (ih h2)

theorem Path.mono (hE : ∀ a x b, E a x b → E' a x b) {a b : Nat} {w : List Sym}
    (h : Path E a w b) : Path E' a w b := by
  induction h with
  | refl s => exact Path.refl s
  | step h _ ih => exact Path.step (hE _ _ _ h) ih

theorem Path.congr (hE : ∀ a x b, E a x b ↔ E' a x b) (a : Nat) (w : List Sym) (b : Nat) :
    Path E a w b ↔ Path E' a w b :=
  ⟨Path.mono fun a x b => (hE a x b).mp, Path.mono fun a x b => (hE a x b).mpr⟩

/-- a state without outgoing edges; for `Edge n` this is `NFA.virgin n s` (`dead_of_virgin`) -/
def Dead (E : Rel) (s : Nat) : Prop := ∀ x b, ¬ E s x b

theorem path_dead {s q : Nat} {w : List Sym} (hd : Dead E s) (h : Path E s w q) : w = [] ∧ q = s := by
  cases h with
  | refl => exact ⟨rfl, rfl⟩
  | step h _ => exact absurd h (hd _ _)

theorem path_dead_iff {s : Nat} (hd : Dead E s) (w : List Sym) (q : Nat) :
    Path E s w q ↔ (w = [] ∧ q = s) := by
  constructor
  · exact path_dead hd
  · rintro ⟨rfl, rfl⟩; exact Path.refl _

def addEps (E : Rel) (s t : Nat) : Rel := fun a x b => E a x b ∨ (a = s ∧ x = none ∧ b = t)

theorem addEps_comm (E : Rel) (s t s' t' : Nat) : addEps (addEps E s t) s' t' = addEps (addEps E s' t') s t := by
  funext a x b
  exact propext or_right_comm

/-- two edges added after two others may as well be added before them (`addRe (.star r)`
adds its four ε-edges in an order other than the one `gadget_star` analyses them in) -/
theorem addEps_comm2 (E : Rel) (s1 t1 s2 t2 s3 t3 s4 t4 : Nat) :
    addEps (addEps (addEps (addEps E s1 t1) s2 t2) s3 t3) s4 t4 =
      addEps (addEps (addEps (addEps E s3 t3) s4 t4) s1 t1) s2 t2 := by
  rw [addEps_comm (addEps E s1 t1) s2 t2 s3 t3, addEps_comm E s1 t1 s3 t3, addEps_comm _ s2 t2 s4 t4,
    addEps_comm _ s1 t1 s4 t4]

theorem addEps_mono (E : Rel) (s t : Nat) : ∀ a x b, E a x b → addEps E s t a x b :=
  fun _ _ _ h => Or.inl h

theorem star_loop {s t : Nat} {v : List Sym} (h : Star (fun u => Path E t u s) v) :
    Path (addEps E s t) s v s := by
  induction h with
  | nil => exact Path.refl s
  | cons h _ ih =>
    exact Path.eps (Or.inr ⟨rfl, rfl, rfl⟩) (Path.trans (Path.mono (addEps_mono E s t) h) ih)

theorem path_addEps (E : Rel) (s t p : Nat) (w : List Sym) (q : Nat) :
    Path (addEps E s t) p w q ↔
      Path E p w q ∨ ∃ w0 v w1, w = w0 ++ v ++ w1 ∧ Path E p w0 s ∧
        Star (fun u => Path E t u s) v ∧ Path E t w1 q := by
  constructor
  · intro h
    induction h with
    | refl a => exact Or.inl (Path.refl a)
    | @step a b c x w h _ ih =>
      rcases h with h | ⟨rfl, rfl, rfl⟩
      · rcases ih with ih | ⟨w0, v, w1, rfl, h0, hs, h1⟩
        · exact Or.inl (Path.step h ih)
        · exact Or.inr ⟨lbl x ++ w0, v, w1, by simp only [List.append_assoc], Path.step h h0, hs, h1⟩
      · rcases ih with ih | ⟨w0, v, w1, rfl, h0, hs, h1⟩
        · exact Or.inr ⟨[], [], w, rfl, Path.refl _, Star.nil, ih⟩
        · exact Or.inr ⟨[], w0 ++ v, w1, rfl, Path.refl _, Star.cons h0 hs, h1⟩
  · rintro (h | ⟨w0, v, w1, rfl, h0, hs, h1⟩)
    · exact Path.mono (addEps_mono E s t) h
    · exact Path.trans (Path.trans (Path.mono (addEps_mono E s t) h0) (star_loop hs))
        (Path.eps (Or.inr ⟨rfl, rfl, rfl⟩) (Path.mono (addEps_mono E s t) h1))

/-- no way back from `t` to `s`: the new edge is used at most once -/
theorem path_addEps_noloop (E : Rel) (s t p : Nat) (w : List Sym) (q : Nat) (hno : ∀ u, ¬ Path E t u s) :
    Path (addEps E s t) p w q ↔
      Path E p w q ∨ ∃ w0 w1, w = w0 ++ w1 ∧ Path E p w0 s ∧ Path E t w1 q := by
  rw [path_addEps]
  constructor
  · rintro (h | ⟨w0, v, w1, rfl, h0, hs, h1⟩)
    · exact Or.inl h
    · cases hs with
      | nil => exact Or.inr ⟨w0, w1, by simp, h0, h1⟩
      | cons h _ => exact absurd h (hno _)
  · rintro (h | ⟨w0, w1, rfl, h0, h1⟩)
    · exact Or.inl h
    · exact Or.inr ⟨w0, [], w1, by simp, h0, Star.nil, h1⟩

theorem path_addEps_unreach {p s t : Nat} (hno : ∀ u, ¬ Path E p u s) (w : List Sym) (q : Nat) :
    Path (addEps E s t) p w q ↔ Path E p w q := by
  rw [path_addEps]
  exact or_iff_left fun ⟨_, _, _, _, h0, _⟩ => hno _ h0

theorem path_addEps_tgtDead (E : Rel) (s t p : Nat) (w : List Sym) (q : Nat) (hd : Dead E t) (hne : s ≠ t) :
    Path (addEps E s t) p w q ↔ Path E p w q ∨ (q = t ∧ Path E p w s) := by
  rw [path_addEps_noloop E s t p w q (fun u h => hne (path_dead hd h).2)]
  constructor
  · rintro (h | ⟨w0, w1, rfl, h0, h1⟩)
    · exact Or.inl h
    · obtain ⟨rfl, rfl⟩ := path_dead hd h1
      exact Or.inr ⟨rfl, by simpa using h0⟩
  · rintro (h | ⟨rfl, h⟩)
    · exact Or.inl h
    · exact Or.inr ⟨w, [], by simp, h, Path.refl _⟩

theorem path_addEps_srcDead (E : Rel) (s t : Nat) (w : List Sym) (q : Nat) (hd : Dead E s)
    (hno : ∀ u, ¬ Path E t u s) :
    Path (addEps E s t) s w q ↔ (w = [] ∧ q = s) ∨ Path E t w q := by
  rw [path_addEps_noloop E s t s w q hno, path_dead_iff hd]
  constructor
  · rintro (h | ⟨w0, w1, rfl, h0, h1⟩)
    · exact Or.inl h
    · obtain ⟨rfl, _⟩ := path_dead hd h0
      exact Or.inr h1
  · rintro (h | h)
    · exact Or.inl h
    · exact Or.inr ⟨[], w, rfl, Path.refl _, h⟩

theorem path_addEps_fromTgt (E : Rel) (s t : Nat) (w : List Sym) (q : Nat) :
    Path (addEps E s t) t w q ↔
      ∃ v w1, w = v ++ w1 ∧ Star (fun u => Path E t u s) v ∧ Path E t w1 q := by
  rw [path_addEps]
  constructor
  · rintro (h | ⟨w0, v, w1, rfl, h0, hs, h1⟩)
    · exact ⟨[], w, rfl, Star.nil, h⟩
    · exact ⟨w0 ++ v, w1, rfl, Star.cons h0 hs, h1⟩
  · rintro ⟨v, w1, rfl, hs, h1⟩
    cases hs with
    | nil => exact Or.inl h1
    | cons h0 hs' => exact Or.inr ⟨_, _, w1, rfl, h0, hs', h1⟩

theorem star_congr (h : ∀ w, L w ↔ L' w) (w : List Sym) : Star L w ↔ Star L' w := by
  rw [show L = L' from funext fun w => propext (h w)]

theorem star_append {u v : List Sym} (h1 : Star L u) (h2 : Star L v) : Star L (u ++ v) := by
  induction h1 with
  | nil => exact h2
  | cons h _ ih => rw [List.append_assoc]; exact Star.cons h ih

theorem star_single {u : List Sym} (h : L u) : Star L u := by
  have := Star.cons h (Star.nil (L := L))
  simpa using this

theorem star_snoc {v w : List Sym} (h1 : Star L v) (h2 : L w) :
    ∃ u v', v ++ w = u ++ v' ∧ L u ∧ Star L v' := by
  cases h1 with
  | nil => exact ⟨w, [], by simp, h2, Star.nil⟩
  | cons h hs => exact ⟨_, _, List.append_assoc _ _ _, h, star_append hs (star_single h2)⟩

theorem star_unsnoc {u v : List Sym} (h1 : L u) (h2 : Star L v) :
    ∃ v' w, u ++ v = v' ++ w ∧ Star L v' ∧ L w := by
  induction h2 generalizing u with
  | nil => exact ⟨[], u, by simp, Star.nil, h1⟩
  | cons h _ ih =>
    obtain ⟨v', w, heq, hs, hw⟩ := ih h
    exact ⟨u ++ v', w, by rw [heq, List.append_assoc], Star.cons h1 hs, hw⟩

end Thompson
end Lexgen
