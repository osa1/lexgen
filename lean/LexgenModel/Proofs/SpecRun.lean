import LexgenModel.Exec.SpecRun
import LexgenModel.Proofs.RefMatch
import LexgenModel.Proofs.NextSpec
import LexgenModel.Proofs.CtxLang
/-!
# The executable reference lexer `specNext` takes `RefNext` steps

`specLoop_induct` makes the rounds of `specLoop` a rule induction with the premises of `RefNext`; soundness
(`specNext_sound`) is an instance of it. The right contexts `specNext` uses are numbered as `CtxNumbering` asks
(`specCtxAt_numbering`), and the state after an `InvalidToken` satisfies `ErrResume`.
-/
namespace Lexgen
variable {σ τ ε : Type}

theorem specLoop_done (items : LexerDef) (cfg : Config σ τ ε) (ctxAt : Nat → Regex) (fuel : Nat) (st : LState σ)
    (h : st.done = true) : specLoop items cfg ctxAt fuel st = some (none, st) := by
  -- at fuel `0` or `_ + 1`, `specLoop` reduces to the `if st.done …` of its definition: `if_pos`/`if_neg` unfold it
  -- (here and below; generating the equation lemma of `specLoop` for `rw`/`unfold` is slow)
  cases fuel with
  | zero => exact if_pos h
  | succ fuel => exact if_pos h

theorem specNext_done (items : LexerDef) (cfg : Config σ τ ε) (fuel : Nat) (st : LState σ)
    (h : st.done = true) : specNext items cfg fuel st = some (none, st) :=
  specLoop_done items cfg _ fuel st h

theorem specNext_eq (items : LexerDef) (cfg : Config σ τ ε) (fuel : Nat) (st : LState σ) :
    specNext items cfg fuel st = specLoop items cfg (specCtxAt items) fuel st := rfl

theorem specLoop_selected (items : LexerDef) (cfg : Config σ τ ε) (ctxAt : Nat → Regex) (fuel : Nat) (st : LState σ)
    (e : String × List RuleOrBinding × Bindings × Nat) (rules : List CoreRule) (n a : Nat) (viaEoi : Bool)
    (hd : st.done = false) (ha : activeSet items cfg st.initial = some e)
    (hr : coreRules e.2.1 e.2.2.1 e.2.2.2 = some rules)
    (hsel : selectRef rules ctxAt st.iter = some (n, a, viaEoi)) :
    specLoop items cfg ctxAt (fuel + 1) st =
      match callAction cfg a (matchState cfg.width st n viaEoi 0) with
      | .ret item st' => some (item, st')
      | .cont st2 => specLoop items cfg ctxAt fuel st2 := by
  refine (if_neg (hd ▸ Bool.false_ne_true)).trans ?_
  simp only [ha, hr, hsel]
  rfl

theorem specLoop_unselected (items : LexerDef) (cfg : Config σ τ ε) (ctxAt : Nat → Regex) (fuel : Nat) (st : LState σ)
    (e : String × List RuleOrBinding × Bindings × Nat) (rules : List CoreRule)
    (hd : st.done = false) (ha : activeSet items cfg st.initial = some e)
    (hr : coreRules e.2.1 e.2.2.1 e.2.2.2 = some rules)
    (hsel : selectRef rules ctxAt st.iter = none) :
    specLoop items cfg ctxAt (fuel + 1) st =
      if st.iter = [] ∧ st.state = 0 then some (none, { st with done := true })
      else some (some (.invalid st.curStart), errState cfg.width (rules.map (·.re)) st) := by
  refine (if_neg (hd ▸ Bool.false_ne_true)).trans ?_
  simp only [ha, hr, hsel]

/-- the lexer state at the start of a lexeme as far as `RefNext` cares: nothing saved, `__state` is the
number of the active rule set (the first two conjuncts of `ActiveIn`; `activeIn_of_activeSet` supplies the third) -/
def AtStart (st : LState σ) : Prop := st.last = none ∧ st.state = st.initial

theorem initState_atStart (user : σ) (chars : List Nat) : AtStart (initState user chars) := ⟨rfl, rfl⟩

/-- Rule induction over the calls of `specLoop` that return, from a state at the start of a lexeme: one case per
constructor of `RefNext`, with the premises about selection that `RefNext` asks for (`Selects` when an action is
called, no `LangCand` at all at end of stream and at `InvalidToken`). The fuel is dealt with here, once, and so is
the invariant `AtStart`. -/
theorem specLoop_induct (items : LexerDef) (cfg : Config σ τ ε) (ctxAt : Nat → Regex)
    {motive : LState σ → Option (Item τ ε) × LState σ → Prop}
    (done : ∀ st, AtStart st → st.done = true → motive st (none, st))
    (ret : ∀ (st : LState σ) e rules n a viaEoi item st', AtStart st → st.done = false →
      activeSet items cfg st.initial = some e → coreRules e.2.1 e.2.2.1 e.2.2.2 = some rules →
      Selects rules ctxAt st.iter n a viaEoi →
      callAction cfg a (matchState cfg.width st n viaEoi 0) = .ret item st' → motive st (item, st'))
    (cont : ∀ (st : LState σ) e rules n a viaEoi st2 r, AtStart st → st.done = false →
      activeSet items cfg st.initial = some e → coreRules e.2.1 e.2.2.1 e.2.2.2 = some rules →
      Selects rules ctxAt st.iter n a viaEoi →
      callAction cfg a (matchState cfg.width st n viaEoi 0) = .cont st2 → motive st2 r → motive st r)
    (eof : ∀ (st : LState σ) e rules, AtStart st → st.done = false → activeSet items cfg st.initial = some e →
      coreRules e.2.1 e.2.2.1 e.2.2.2 = some rules → (∀ n a v, ¬ LangCand rules ctxAt st.iter n a v) →
      st.iter = [] → st.state = 0 → motive st (none, { st with done := true }))
    (invalid : ∀ (st : LState σ) e rules, AtStart st → st.done = false → activeSet items cfg st.initial = some e →
      coreRules e.2.1 e.2.2.1 e.2.2.2 = some rules → (∀ n a v, ¬ LangCand rules ctxAt st.iter n a v) →
      ¬ (st.iter = [] ∧ st.state = 0) →
      motive st (some (.invalid st.curStart), errState cfg.width (rules.map (·.re)) st))
    (fuel : Nat) (st : LState σ) (hst : AtStart st) (r : Option (Item τ ε) × LState σ)
    (h : specLoop items cfg ctxAt fuel st = some r) : motive st r := by
  induction fuel generalizing st with
  | zero =>
    cases hd : st.done with
    | true => rw [specLoop_done _ _ _ _ _ hd] at h; cases h; exact done st hst hd
    | false => exact nomatch (if_neg (hd ▸ Bool.false_ne_true)).symm.trans h
  | succ fuel ih =>
    cases hd : st.done with
    | true => rw [specLoop_done _ _ _ _ _ hd] at h; cases h; exact done st hst hd
    | false =>
      replace h := (if_neg (hd ▸ Bool.false_ne_true)).symm.trans h
      split at h
      · cases h
      · next e ha =>
        split at h
        · cases h
        · next rules hr =>
          split at h
          · next n a viaEoi hsel =>
            have hS := (selectRef_some ..).mp hsel
            split at h
            · next item st' hc => cases h; exact ret st e rules n a viaEoi item st' hst hd ha hr hS hc
            · next st2 hc =>
              -- whatever the action does, `callSt` leaves `last` alone and ends with `__state = __initial_state`
              have hst2 : AtStart st2 := by
                obtain ⟨_, rfl⟩ := callAction_cont hc
                exact ⟨rfl, rfl⟩
              exact cont st e rules n a viaEoi st2 r hst hd ha hr hS hc (ih st2 hst2 h)
          · next hsel =>
            have hno := (selectRef_none ..).mp hsel
            split at h
            · next hc => cases h; exact eof st e rules hst hd ha hr hno hc.1 hc.2
            · next hc => cases h; exact invalid st e rules hst hd ha hr hno hc

theorem activeSet_spec (items : LexerDef) (c : Compiled) (cfg : Config σ τ ε) (hent : cfg.entries = c.entries)
    (n : Nat) (e : String × List RuleOrBinding × Bindings × Nat) (h : activeSet items cfg n = some e) :
    e ∈ allRuleSets items ∧ ∃ en, IsEntryOf items c e.1 en ∧ n = renumber cfg.inl en := by
  by_cases hrs : hasRuleSets items = true
  · replace h := (if_pos hrs).symm.trans h
    split at h
    · cases h
    · next e' hf =>
      obtain ⟨en, hen, rfl⟩ := List.mem_map.mp (List.mem_of_find?_eq_some hf)
      have hp := List.find?_some hf
      have hname := List.find?_some h
      exact ⟨List.mem_of_find?_eq_some h, en.2, (if_pos hrs).mpr (hent ▸ of_decide_eq_true hname ▸ hen),
        (of_decide_eq_true hp).symm⟩
  · replace h := (if_neg hrs).symm.trans h
    split at h
    · next hn =>
      exact ⟨List.mem_of_mem_head? h, 0, (if_neg hrs).mpr rfl, hn.trans (NextProtocol.renumber_zero cfg.inl).symm⟩
    · cases h

theorem scopedRuleSets_ge (items : LexerDef) (b : Bindings) (k : Nat)
    (e : String × List RuleOrBinding × Bindings × Nat) (h : e ∈ scopedRuleSets items b k) : k ≤ e.2.2.2 := by
  induction items generalizing b k with
  | nil => exact nomatch h
  | cons x rest ih =>
    cases x with
    | errorType => exact ih b k h
    | rb y =>
      cases y with
      | binding n re => exact ih _ k h
      | rule r => exact Nat.le_trans (Nat.le_add_right _ _) (ih b _ h)
    | ruleSet name rs =>
      rcases List.mem_cons.mp h with rfl | h
      · exact Nat.le_refl _
      · exact Nat.le_trans (Nat.le_add_right _ _) (ih b _ h)

/-- the table entry of a rule set: the function `specCtxTable` maps over the rule sets -/
def ctxEntry (e : String × List RuleOrBinding × Bindings × Nat) : Option (Nat × List Regex) :=
  (coreCtxs e.2.1 e.2.2.1).map fun cres => (e.2.2.2, cres)

theorem ctxAtTable_hit (k : Nat) (cres : List Regex) (rest : List (Nat × List Regex)) (j : Nat)
    (hj : j < cres.length) : ctxAtTable ((k, cres) :: rest) (k + j) = cres[j] := by
  refine (if_pos ⟨Nat.le_add_right k j, Nat.add_lt_add_left hj k⟩).trans ?_
  rw [Nat.add_sub_cancel_left]
  simp [List.getD_eq_getElem?_getD, hj]

theorem ctxAtTable_skip (k : Nat) (cres : List Regex) (rest : List (Nat × List Regex)) (i : Nat)
    (hi : k + cres.length ≤ i) : ctxAtTable ((k, cres) :: rest) i = ctxAtTable rest i :=
  if_neg fun h => Nat.not_lt.mpr hi h.2

theorem scoped_numbering (items : LexerDef) (b : Bindings) (k0 : Nat)
    (e : String × List RuleOrBinding × Bindings × Nat) (he : e ∈ scopedRuleSets items b k0)
    (cres : List Regex) (hc : coreCtxs e.2.1 e.2.2.1 = some cres) (j : Nat) (hj : j < cres.length) :
    ctxAtTable ((scopedRuleSets items b k0).filterMap ctxEntry) (e.2.2.2 + j) = cres[j] := by
  induction items generalizing b k0 with
  | nil => exact nomatch he
  | cons x rest ih =>
    cases x with
    | errorType => exact ih b k0 he
    | rb y =>
      cases y with
      | binding n re => exact ih _ k0 he
      | rule r => exact ih b _ he
    | ruleSet name rs =>
      show ctxAtTable (((name, rs, b, k0) :: scopedRuleSets rest b (k0 + ctxCount rs)).filterMap ctxEntry) _ = _
      rw [List.filterMap_cons]
      rcases List.mem_cons.mp he with rfl | he
      · rw [show ctxEntry (name, rs, b, k0) = some (k0, cres) from congrArg (Option.map _) hc]
        exact ctxAtTable_hit _ _ _ _ hj
      · have hge := scopedRuleSets_ge _ _ _ _ he
        cases hh : ctxEntry (name, rs, b, k0) with
        | none => exact ih _ _ he
        | some p =>
          -- the table entry of an earlier rule set ends before the contexts of `e` begin
          obtain ⟨cres0, h0, rfl⟩ := Option.map_eq_some_iff.mp hh
          have hl : cres0.length = ctxCount rs := CtxLangP.coreCtxs_length _ _ _ h0
          rw [ctxAtTable_skip _ _ _ _ (Nat.le_trans (hl ▸ hge) (Nat.le_add_right _ j))]
          exact ih _ _ he

theorem specCtxAt_numbering (items : LexerDef) : CtxNumbering items (specCtxAt items) := by
  intro name rs b k hmem cres hc j hj
  show ctxAtTable ((allRuleSets items).filterMap ctxEntry) (k + j) = cres[j]
  unfold allRuleSets at hmem ⊢
  by_cases hrs : hasRuleSets items = true
  · rw [if_pos hrs] at hmem ⊢
    exact scoped_numbering items [] 0 (name, rs, b, k) hmem cres hc j hj
  · rw [if_neg hrs] at hmem ⊢
    simp only [List.mem_singleton, Prod.mk.injEq] at hmem
    obtain ⟨rfl, rfl, rfl, rfl⟩ := hmem
    simp only [List.filterMap_cons, ctxEntry, hc, Option.map_some, List.filterMap_nil]
    exact ctxAtTable_hit _ _ _ _ hj

theorem errAdvance_progress (res : List Regex) (iter : List Nat) :
    0 < (errAdvance res iter).1 ∨ (errAdvance res iter).2 = true := by
  unfold errAdvance
  generalize viableRef res iter = p
  obtain ⟨k, cur⟩ := p
  cases k with
  | succ k => exact Or.inl (Nat.lt_of_lt_of_le (Nat.succ_pos k) (Nat.le_add_right _ _))
  | zero =>
    -- nothing is viable: the automaton reads on, one character unless the input has ended
    cases iter with
    | nil => exact Or.inr rfl
    | cons c rest => exact Or.inl Nat.one_pos

theorem errAdvance_done (res : List Regex) (iter : List Nat) (h : (errAdvance res iter).2 = true) :
    iter.length ≤ (errAdvance res iter).1 := by
  unfold errAdvance at h ⊢
  simp only [Bool.and_eq_true, beq_iff_eq] at h
  exact Nat.le_trans (Nat.le_of_eq h.2.symm) (Nat.le_add_right _ _)

-- `errAdvance` stays folded while the unifier compares the fields of the two states
attribute [local irreducible] errAdvance in
theorem errState_resume (width : Nat → Nat) (res : List Regex) (st : LState σ) :
    ErrResume st (errState width res st) where
  state0 := ⟨rfl, rfl⟩
  emptyMatch := rfl
  noSaved := rfl
  user := rfl
  consumed := ⟨(errAdvance res st.iter).1, rfl, errAdvance_progress res st.iter⟩
  doneOnlyAtEnd := fun h => List.drop_eq_nil_of_le (errAdvance_done res st.iter h)

theorem specLoop_atStart (items : LexerDef) (cfg : Config σ τ ε) (ctxAt : Nat → Regex) (fuel : Nat) (st : LState σ)
    (hst : AtStart st) (r : Option (Item τ ε) × LState σ) (h : specLoop items cfg ctxAt fuel st = some r) :
    AtStart r.2 := by
  refine specLoop_induct items cfg ctxAt (motive := fun _ r => AtStart r.2)
    (fun _ hst _ => hst) ?_ (fun _ _ _ _ _ _ _ _ _ _ _ _ _ _ ih => ih) (fun _ _ _ hst _ _ _ _ _ _ => hst)
    (fun _ _ _ _ _ _ _ _ _ => ⟨rfl, rfl⟩) fuel st hst r h
  intro st e rules n a viaEoi item st' _ _ _ _ _ hc
  obtain ⟨rfl, _⟩ := callAction_ret hc
  exact ⟨rfl, rfl⟩

theorem activeIn_of_activeSet (items : LexerDef) (c : Compiled) (cfg : Config σ τ ε) (hent : cfg.entries = c.entries)
    (st : LState σ) (hst : AtStart st) (e : String × List RuleOrBinding × Bindings × Nat)
    (ha : activeSet items cfg st.initial = some e) :
    e ∈ allRuleSets items ∧ ActiveIn items c cfg.inl st e.1 := by
  obtain ⟨hmem, en, hen, hnum⟩ := activeSet_spec items c cfg hent _ _ ha
  exact ⟨hmem, hst.1, hst.2, en, hen, hst.2.trans hnum⟩

/-- `specNext_sound` for any reading `ctxAt` of the right-context numbers -/
theorem specLoop_sound (items : LexerDef) (c : Compiled) (cfg : Config σ τ ε) (hent : cfg.entries = c.entries)
    (ctxAt : Nat → Regex) (fuel : Nat) (st : LState σ) (hst : AtStart st)
    (r : Option (Item τ ε) × LState σ) (h : specLoop items cfg ctxAt fuel st = some r) :
    RefNext items c ctxAt cfg st r := by
  refine specLoop_induct items cfg ctxAt (motive := RefNext items c ctxAt cfg)
    (fun st _ hd => RefNext.done st hd) ?_ ?_ ?_ ?_ fuel st hst r h
  · rintro st ⟨name, rs, b, k⟩ rules n a viaEoi item st' hst hd ha hr hS hc
    obtain ⟨hmem, hact⟩ := activeIn_of_activeSet items c cfg hent st hst _ ha
    exact RefNext.ret st name rs b k rules n a viaEoi 0 item st' hd hmem hr hact hS hc
  · rintro st ⟨name, rs, b, k⟩ rules n a viaEoi st2 r hst hd ha hr hS hc ih
    obtain ⟨hmem, hact⟩ := activeIn_of_activeSet items c cfg hent st hst _ ha
    exact RefNext.cont st name rs b k rules n a viaEoi 0 st2 r hd hmem hr hact hS hc ih
  · rintro st ⟨name, rs, b, k⟩ rules hst hd ha hr hno hi hs0
    obtain ⟨hmem, hact⟩ := activeIn_of_activeSet items c cfg hent st hst _ ha
    exact RefNext.eof st name rs b k rules _ hd hmem hr hact hno hi hs0 rfl rfl
  · rintro st ⟨name, rs, b, k⟩ rules hst hd ha hr hno hne
    obtain ⟨hmem, hact⟩ := activeIn_of_activeSet items c cfg hent st hst _ ha
    exact RefNext.invalid st name rs b k rules _ hd hmem hr hact hno hne (errState_resume _ _ _)

/-- Soundness of the executable reference lexer: run with the entries of the compiled machine `c` (only used
to number the rule sets) from a state at the start of a lexeme, every result of `specNext` is a step of the
reference lexer `RefNext` of the definition, for the right contexts `specCtxAt items`, which are numbered as
`CtxNumbering` asks (`specCtxAt_numbering`). -/
theorem specNext_sound (items : LexerDef) (c : Compiled) (cfg : Config σ τ ε) (hent : cfg.entries = c.entries)
    (fuel : Nat) (st : LState σ) (hst : AtStart st)
    (r : Option (Item τ ε) × LState σ) (h : specNext items cfg fuel st = some r) :
    RefNext items c (specCtxAt items) cfg st r :=
  specLoop_sound items c cfg hent (specCtxAt items) fuel st hst r h

end Lexgen
