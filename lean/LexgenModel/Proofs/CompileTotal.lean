import LexgenModel.Spec.Total
import LexgenModel.Proofs.CompileLang
import LexgenModel.Proofs.ThompsonTotal
import LexgenModel.Proofs.SubsetTotal
import LexgenModel.Proofs.SubsetReach
/-!
# Totality of the model of `lexer()`: no internal assertion fires, no work-list loop runs out of fuel
-/
namespace Lexgen
namespace CompileTotal
open Lexgen.Static Lexgen.CompileLang Lexgen.Simplify

def FailsOnly {α : Type} (E : CompileError → Prop) (x : Except CompileError α) : Prop :=
  ∀ e, x = .error e → E e

theorem failsOnly_ok {α : Type} (E : CompileError → Prop) (v : α) : FailsOnly E (Except.ok v) :=
  fun _ h => nomatch h

theorem failsOnly_bind {α β : Type} {E : CompileError → Prop} {x : Except CompileError α}
    {f : α → Except CompileError β} (hx : FailsOnly E x) (hf : ∀ v, x = .ok v → FailsOnly E (f v)) :
    FailsOnly E (x >>= f) := by
  intro e h
  rcases bind_eq_error.mp h with h | ⟨v, hv, h⟩
  · exact hx e h
  · exact hf v hv e h

theorem failsOnly_mapM {α β : Type} {E : CompileError → Prop} (f : α → Except CompileError β) :
    ∀ l : List α, (∀ x ∈ l, FailsOnly E (f x)) → FailsOnly E (l.mapM f)
  | [], _ => failsOnly_ok E _
  | a :: l, h => by
    rw [List.mapM_cons]
    refine failsOnly_bind (h a List.mem_cons_self) fun y _ => ?_
    refine failsOnly_bind (failsOnly_mapM f l fun x hx => h x (List.mem_cons_of_mem _ hx)) fun ys _ => ?_
    exact failsOnly_ok E _

/-- the computation does not fail with an internal error: `FailsOnly (·.isInternal = false)` unfolded,
so the `failsOnly_*` lemmas apply to it as they stand -/
def NI {α : Type} (x : Except CompileError α) : Prop := ∀ e, x = .error e → e.isInternal = false

theorem ni_ok {α : Type} (v : α) : NI (Except.ok v : Except CompileError α) := failsOnly_ok _ v

theorem ni_pure {α : Type} (v : α) : NI (pure v : Except CompileError α) := ni_ok v

theorem ni_error {α : Type} (e : CompileError) (h : e.isInternal = false) :
    NI (Except.error e : Except CompileError α) := by
  intro e' h'; cases h'; exact h

theorem ni_foldlM {σ α : Type} (f : σ → α → Except CompileError σ) (P : σ → Prop) (Q : α → Prop)
    (hstep : ∀ g a, P g → Q a → NI (f g a) ∧ ∀ g', f g a = .ok g' → P g')
    (l : List α) (hl : ∀ a ∈ l, Q a) (init : σ) (hi : P init) :
    NI (l.foldlM f init) ∧ ∀ g, l.foldlM f init = .ok g → P g :=
  foldlM_splits (R := fun _ => P) (Q := fun _ => Q) (E := fun e : CompileError => e.isInternal = false)
    (fun _ g a => hstep g a) l [] init hi
    (fun pre x post e => hl x (by rw [e]; exact List.mem_append_right _ List.mem_cons_self))

def BindOK (b : Bindings) : Prop := ∀ p ∈ b, regexPiecesOK p.2

theorem bindOK_nil : BindOK [] := fun p hp => by cases hp

theorem bindOK_snoc {b : Bindings} (h : BindOK b) (n : String) (re : Regex) (hre : regexPiecesOK re) :
    BindOK (b ++ [(n, re)]) := by
  intro p hp
  rcases List.mem_append.mp hp with h1 | h1
  · exact h p h1
  · rw [List.mem_singleton] at h1; subst h1; exact hre

theorem inlineVars_ni (b : Bindings) : ∀ (fuel : Nat) (re : Regex), NI (inlineVars b fuel re) := by
  intro fuel re
  fun_induction inlineVars b fuel re with
  | case2 n => exact ni_error _ rfl
  | case3 fuel n hf => exact ni_error _ rfl
  | case4 fuel n r hf ih => exact ih
  | case8 fuel r ih | case9 fuel r ih | case10 fuel r ih => exact failsOnly_bind ih (fun _ _ => ni_ok _)
  | case11 fuel x y ihx ihy | case12 fuel x y ihx ihy | case15 fuel x y ihx ihy =>
    exact failsOnly_bind ihx (fun _ _ => failsOnly_bind ihy (fun _ _ => ni_ok _))
  | case1 | case5 | case6 | case7 | case13 | case14 => exact ni_ok _

/-- Facts about the result of a successful `inlineVars` are proved by induction on the derivation of
`Expands`, the substitution relation without fuel. -/
theorem expands_of_inlineVars (b : Bindings) : ∀ (k : Nat) (re re' : Regex),
    inlineVars b k re = .ok re' → Expands b re re' := by
  intro k re
  fun_induction inlineVars b k re with
  | case2 n => exact nofun
  | case3 k n hf => exact nofun
  | case4 k n r hf ih => exact fun re' h => Expands.var hf (ih re' h)
  | case8 k r ih | case9 k r ih | case10 k r ih =>
    intro re' h
    obtain ⟨r', h1, h2⟩ := bind_eq_ok.mp h
    cases h2
    first
    | exact Expands.star (ih r' h1)
    | exact Expands.plus (ih r' h1)
    | exact Expands.opt (ih r' h1)
  | case11 k x y ihx ihy | case12 k x y ihx ihy | case15 k x y ihx ihy =>
    intro re' h
    obtain ⟨x', h1, h2⟩ := bind_eq_ok.mp h
    obtain ⟨y', h3, h4⟩ := bind_eq_ok.mp h2
    cases h4
    first
    | exact Expands.cat (ihx x' h1) (ihy y' h3)
    | exact Expands.alt (ihx x' h1) (ihy y' h3)
    | exact Expands.diff (ihx x' h1) (ihy y' h3)
  | case1 | case5 | case6 | case7 | case13 | case14 =>
    intro re' h
    cases h
    constructor

theorem expands_pieces {b : Bindings} (hb : BindOK b) {re re' : Regex} (h : Expands b re re') :
    regexPiecesOK re → regexPiecesOK re' := by
  induction h with
  | builtin _ | chr _ | str _ | set _ | any | eoi => exact id
  | var hf _ ih =>
    intro _
    exact ih (hb _ (find?_some_mem hf))
  | star _ ih | plus _ ih | opt _ ih => exact ih
  | cat _ _ ihx ihy | alt _ _ ihx ihy | diff _ _ ihx ihy => exact fun hre => ⟨ihx hre.1, ihy hre.2⟩

theorem inlineVars_pieces (b : Bindings) (hb : BindOK b) (fuel : Nat) (re re' : Regex)
    (hre : regexPiecesOK re) (h : inlineVars b fuel re = .ok re') : regexPiecesOK re' :=
  expands_pieces hb (expands_of_inlineVars b fuel re re' h) hre

def HasBuilt (n : NFA) : Prop := ∃ pre, RuleSetLang.Built pre n

theorem hasBuilt_new : HasBuilt NFA.new := ⟨[], RuleSetLang.built_new⟩

theorem hasBuilt_step {n n' : NFA} (h : HasBuilt n) (re : Regex) (ctx : Option Nat) (value : Nat)
    (hre : regexPiecesOK re) (hadd : n.addRegex re ctx value = .ok n') : HasBuilt n' := by
  obtain ⟨pre, hp⟩ := h
  exact ⟨_, RuleSetLang.built_step hp { re := re, ctx := ctx, value := value } hre hadd⟩

theorem newRightCtx_ni (ctxs : List (DFA Nat)) (b : Bindings) (hbok : BindOK b) (re : Regex)
    (hre : regexPiecesOK re) : NI (newRightCtx ctxs b re) := by
  unfold newRightCtx
  apply failsOnly_bind (inlineVars_ni b _ re)
  intro re' hre'
  have hp := inlineVars_pieces b hbok _ re re' hre hre'
  apply failsOnly_bind (addRegex_no_internal NFA.new Thompson.wf_new re' none 0)
  intro nfa hnfa
  obtain ⟨pre, hB⟩ := hasBuilt_step hasBuilt_new re' none 0 hp hnfa
  obtain ⟨d, hd⟩ := nfaToDfa_total nfa hB.wf
  simp only [hd]
  exact ni_ok _

theorem compileSingleRule_ni (nfa : NFA) (hn : HasBuilt nfa) (r : SingleRule) (b : Bindings) (hbok : BindOK b)
    (hr : rbPiecesOK (.rule r)) (ctxs : List (DFA Nat)) :
    NI (compileSingleRule nfa r b ctxs) ∧
      ∀ n' c', compileSingleRule nfa r b ctxs = .ok (n', c') → HasBuilt n' := by
  constructor
  · intro e h
    obtain ⟨pre, hB⟩ := hn
    rcases compileSingleRule_eq_error h with ⟨c, hc, h⟩ | h | ⟨re, ctx, _, h⟩
    · exact newRightCtx_ni ctxs b hbok c (hr.2 c hc) e h
    · exact inlineVars_ni b _ _ e h
    · exact addRegex_no_internal nfa hB.wf re ctx r.rhs e h
  · intro n' c' h
    obtain ⟨re, hre, hcase⟩ := compileSingleRule_eq_ok.mp h
    have hp := inlineVars_pieces b hbok _ r.re re hr.1 hre
    rcases hcase with ⟨_, _, hadd⟩ | ⟨_, _, _, _, hadd⟩
    · exact hasBuilt_step hn re _ _ hp hadd
    · exact hasBuilt_step hn re _ _ hp hadd

/-- what `update_backtracks` and `simplify` need of the automaton of one rule set in order not to trip an assertion (not to be
confused with `BlockOK`, the shape the run-time theorems need): targets are states, every state is reachable from the initial
state 0, and the predecessor lists are right -/
structure BlockGood (d : DFA Nat) : Prop where
  tir : TargetsInRange d
  init : (d.st 0).initial = true
  reach : AllReachable0 d
  preds : PredsSound d

/-- `BlockGood` for a concatenation of blocks: reachable from SOME initial state; kept by `add_dfa` (`fullGood_addDfa`) -/
structure FullGood (d : DFA Nat) : Prop where
  tir : TargetsInRange d
  reach : ∀ s, s < d.length → ∃ i, i < d.length ∧ (d.st i).initial = true ∧ Backtrack.Path d i s
  preds : PredsSound d

theorem fullGood_of_block {d : DFA Nat} (h : BlockGood d) : FullGood d := by
  refine ⟨h.tir, ?_, h.preds⟩
  intro s hs
  exact ⟨0, st_initial_lt h.init, h.init, h.reach s hs⟩

theorem path_addDfa_left (d0 dR : DFA Nat) (hT : TargetsInRange d0) {i s : Nat} (hi : i < d0.length)
    (p : Backtrack.Path d0 i s) : s < d0.length ∧ Backtrack.Path (addDfa d0 dR).1 i s := by
  induction p with
  | refl => exact ⟨hi, Backtrack.Path.refl _⟩
  | step _ hu ih =>
    obtain ⟨h1, h2⟩ := ih
    refine ⟨hT _ h1 _ hu, Backtrack.Path.step h2 ?_⟩
    rw [(addDfa_spec d0 dR).2.2.1 _ h1]
    exact hu

theorem path_addDfa_right (d0 dR : DFA Nat) (hT : TargetsInRange dR) {i s : Nat} (hi : i < dR.length)
    (p : Backtrack.Path dR i s) :
    s < dR.length ∧ Backtrack.Path (addDfa d0 dR).1 (d0.length + i) (d0.length + s) := by
  induction p with
  | refl => exact ⟨hi, Backtrack.Path.refl _⟩
  | step _ hu ih =>
    obtain ⟨h1, h2⟩ := ih
    refine ⟨hT _ h1 _ hu, Backtrack.Path.step h2 ?_⟩
    rw [(addDfa_spec d0 dR).2.2.2 _ h1, succs_shift, Nat.add_comm]
    exact List.mem_map.mpr ⟨_, hu, rfl⟩

theorem fullGood_addDfa (d0 dR : DFA Nat) (h0 : FullGood d0) (hR : BlockGood dR) :
    FullGood (addDfa d0 dR).1 := by
  obtain ⟨_, hlen, hL, hS⟩ := addDfa_spec d0 dR
  have hR0 : 0 < dR.length := st_initial_lt hR.init
  refine ⟨addDfa_targets d0 dR h0.tir hR.tir, ?_, ?_⟩
  · intro s hs
    rw [hlen]
    rcases addDfa_st_cases d0 dR s hs with ⟨h, _⟩ | ⟨k, hk, rfl, _⟩
    · obtain ⟨i, hi, hini, p⟩ := h0.reach s h
      refine ⟨i, Nat.lt_add_right _ hi, ?_, (path_addDfa_left d0 dR h0.tir hi p).2⟩
      rw [hL i hi]
      exact hini
    · refine ⟨d0.length + 0, Nat.add_lt_add_left hR0 _, ?_, (path_addDfa_right d0 dR hR.tir hR0 (hR.reach k hk)).2⟩
      rw [hS 0 hR0]
      exact hR.init
  · intro s hs p hp
    rw [hlen]
    rcases addDfa_st_cases d0 dR s hs with ⟨h, hst⟩ | ⟨k, hk, rfl, hst⟩
    · rw [hst] at hp
      obtain ⟨h1, h2⟩ := h0.preds s h p hp
      refine ⟨Nat.lt_add_right _ h1, ?_⟩
      rw [hL p h1]
      exact h2
    · rw [hst] at hp
      obtain ⟨q, hq, rfl⟩ := List.mem_map.mp (show p ∈ (dR.st k).preds.map (· + d0.length) from hp)
      obtain ⟨h1, h2⟩ := hR.preds k hk q hq
      rw [Nat.add_comm q d0.length]
      refine ⟨Nat.add_lt_add_left h1 _, ?_⟩
      rw [hS q h1, succs_shift, Nat.add_comm d0.length]
      exact List.mem_map.mpr ⟨_, h2, rfl⟩

theorem nfaToDfa_good (nfa : NFA) (hn : HasBuilt nfa) : ∃ d, nfaToDfa nfa = some d ∧ BlockGood d := by
  obtain ⟨pre, hB⟩ := hn
  obtain ⟨d, hd⟩ := nfaToDfa_total nfa hB.wf
  obtain ⟨h1, h2⟩ := Subset.nfaToDfa_inRange hd
  obtain ⟨h3, h4⟩ := nfaToDfa_reach_preds nfa hB.wf ((Thompson.targetsNonempty_iff nfa).mp hB.tne) d hd
  exact ⟨d, hd, h1, h2, h3, h4⟩

theorem rsStep_ni (acc : NFA × Bindings × List (DFA Nat)) (item : RuleOrBinding)
    (hacc : HasBuilt acc.1 ∧ BindOK acc.2.1) (hitem : rbPiecesOK item) :
    NI (rsStep acc item) ∧ ∀ acc', rsStep acc item = .ok acc' → HasBuilt acc'.1 ∧ BindOK acc'.2.1 := by
  cases item with
  | rule r =>
    obtain ⟨h1, h2⟩ := compileSingleRule_ni acc.1 hacc.1 r acc.2.1 hacc.2 hitem acc.2.2
    refine ⟨fun e h => h1 e (rsStep_rule_eq_error.mp h), fun acc' h => ?_⟩
    obtain ⟨nfa, ctxs, hc, rfl⟩ := rsStep_rule_eq_ok.mp h
    exact ⟨h2 nfa ctxs hc, hacc.2⟩
  | binding n re =>
    refine ⟨fun e h => ?_, fun acc' h => ?_⟩
    · rw [(rsStep_binding_eq_error.mp h).2]
      rfl
    · obtain ⟨_, rfl⟩ := rsStep_binding_eq_ok.mp h
      exact ⟨hacc.1, bindOK_snoc hacc.2 n re hitem⟩

theorem compileRuleSet_ni (rules : List RuleOrBinding) (b : Bindings) (hbok : BindOK b)
    (hr : ∀ x ∈ rules, rbPiecesOK x) (ctxs : List (DFA Nat)) :
    NI (compileRuleSet rules b ctxs) ∧
      ∀ d c', compileRuleSet rules b ctxs = .ok (d, c') → BlockGood d := by
  obtain ⟨h1, h2⟩ := ni_foldlM rsStep (fun acc => HasBuilt acc.1 ∧ BindOK acc.2.1) rbPiecesOK rsStep_ni
    rules hr (NFA.new, b, ctxs) ⟨hasBuilt_new, hbok⟩
  constructor
  · intro e h
    rcases compileRuleSet_eq_error h with h | ⟨acc, hacc, hnone, _⟩
    · exact h1 e h
    · obtain ⟨d, hd, _⟩ := nfaToDfa_good acc.1 (h2 acc hacc).1
      rw [hd] at hnone
      cases hnone
  · intro d c' h
    obtain ⟨nfa, b', hacc, hd⟩ := compileRuleSet_eq_ok.mp h
    obtain ⟨d', hd', hg⟩ := nfaToDfa_good nfa (h2 _ hacc).1
    rw [hd] at hd'
    cases hd'
    exact hg

theorem hasTrans_of_mem {s : DState Nat} {t : Nat} (h : t ∈ DFA.succs s) : DFA.hasNoTransitions s = false := by
  cases hn : DFA.hasNoTransitions s with
  | false => rfl
  | true =>
    rw [succs_of_hasNoTransitions s hn] at h
    cases h

theorem updateBacktracks_preds (d d' : DFA Nat) (hT : TargetsInRange d) (hP : PredsSound d)
    (h : updateBacktracks d = some d') : PredsSound d' := by
  obtain ⟨_, hlen⟩ := updateBacktracks_agree d d' hT h
  obtain ⟨vis, hinv, _, rfl⟩ := Backtrack.updateBacktracks_some d d' hT h
  intro s hs p hp
  rw [hlen] at hs ⊢
  rw [Backtrack.st_zipWith d vis hinv.len s] at hp
  rw [Backtrack.st_zipWith d vis hinv.len p]
  exact hP s hs p hp

theorem simplifyState_ni (d : DFA Nat) (hP : PredsSound d) (i : Nat) (hi : i < d.length) :
    NI (simplifyState d (emptyStates d) (d.st i)) := by
  unfold simplifyState
  apply failsOnly_bind
  · apply failsOnly_mapM
    intro p hp
    obtain ⟨_, h2⟩ := hP i hi p hp
    have hc : (emptyStates d).contains p = false := by
      rw [contains_emptyStates]
      unfold Simplify.isEmpty
      rw [hasTrans_of_mem h2, Bool.false_and, Bool.and_false]
    have hm : mapTransition d (emptyStates d) p = .goto (p - removedBelow (emptyStates d) p) := by
      unfold mapTransition
      rw [if_neg (by rw [hc]; exact Bool.false_ne_true)]
    simp only [hm]
    exact ni_ok _
  · intro preds _
    exact ni_ok _

theorem simplify_ni (d : DFA Nat) (entries : List (String × Nat)) (hP : PredsSound d) :
    NI (simplify d entries) := by
  unfold simplify
  apply failsOnly_bind
  · apply failsOnly_mapM
    intro i hi
    rw [List.mem_filter, List.mem_range] at hi
    exact simplifyState_ni d hP i hi.1
  · intro states _
    exact ni_ok _

structure TInv (g : GlueState) : Prop where
  bind : BindOK g.bindings
  unnamed : HasBuilt g.unnamed
  full : ∀ d, g.initDfa = some d → FullGood d

def itemOK (it : TopItem) : Prop :=
  match it with
  | .errorType => True
  | .rb x => rbPiecesOK x
  | .ruleSet _ rs => ∀ x ∈ rs, rbPiecesOK x

theorem lexStep_ni (g : GlueState) (item : TopItem) (hg : TInv g) (hitem : itemOK item) :
    NI (lexStep g item) ∧ ∀ g', lexStep g item = .ok g' → TInv g' := by
  constructor
  · intro e h
    cases item with
    | errorType =>
      rw [(lexStep_errorType_eq_error.mp h).2]
      rfl
    | rb x =>
      cases x with
      | binding n re =>
        rw [(lexStep_binding_eq_error.mp h).2]
        rfl
      | rule r =>
        exact (compileSingleRule_ni g.unnamed hg.unnamed r g.bindings hg.bind hitem g.ctxs).1 e
          (lexStep_rule_eq_error.mp h)
    | ruleSet name rules =>
      rcases lexStep_ruleSet_eq_error h with ⟨_, _, rfl⟩ | h | ⟨_, rfl⟩
      · rfl
      · exact (compileRuleSet_ni rules g.bindings hg.bind hitem g.ctxs).1 e h
      · rfl
  · intro g' h
    revert hitem
    refine lexStep_ok_cases (R := fun _ x g' => itemOK x → TInv g') h ?_ ?_ ?_ ?_
    · exact fun _ _ => ⟨hg.bind, hg.unnamed, hg.full⟩
    · exact fun n re _ hitem => ⟨bindOK_snoc hg.bind n re hitem, hg.unnamed, hg.full⟩
    · intro r nfa ctxs hc hitem
      exact ⟨hg.bind, (compileSingleRule_ni g.unnamed hg.unnamed r g.bindings hg.bind hitem g.ctxs).2 nfa ctxs hc,
        hg.full⟩
    · intro name rules d ctxs full idx hc _ hcase hitem
      have hd := (compileRuleSet_ni rules g.bindings hg.bind hitem g.ctxs).2 d ctxs hc
      refine ⟨hg.bind, hg.unnamed, fun d' hd' => ?_⟩
      cases hd'
      rcases hcase with ⟨_, rfl, _⟩ | ⟨_, d0, hd0, rfl, _⟩
      · exact fullGood_of_block hd
      · exact fullGood_addDfa d0 d (hg.full d0 hd0) hd

theorem lexPost_ni (g : GlueState) (hg : TInv g) : NI (lexPost g) := by
  intro e h
  obtain ⟨d0, hd0, hgood⟩ := nfaToDfa_good g.unnamed hg.unnamed
  rcases lexPost_eq_error h with ⟨_, hn, _⟩ | ⟨d, hd, hcase⟩
  · rw [hd0] at hn
    cases hn
  · have hF : FullGood d := by
      rcases hd with hd | ⟨_, hd⟩
      · exact hg.full d hd
      · rw [hd0] at hd
        cases hd
        exact fullGood_of_block hgood
    obtain ⟨d', hu⟩ := Backtrack.backtrack_total d hF.tir hF.reach
    rcases hcase with ⟨hnone, _⟩ | ⟨full, hfull, h⟩
    · rw [hu] at hnone
      cases hnone
    · exact simplify_ni full g.entries (updateBacktracks_preds d full hF.tir hF.preds hfull) e h

end CompileTotal

open CompileTotal Static

/-- The model of the macro never hits one of the macro's internal assertions and every work-list loop
(subset construction, backtrack analysis) ends within its fuel: `compileLexer` either succeeds or reports
an error of the user. -/
theorem compileLexer_no_internal (items : LexerDef) (hp : ItemsPiecesOK items) :
    ∀ e, compileLexer items = .error e → e.isInternal = false := by
  rw [compileLexer_eq]
  by_cases hm : mixedRules items = true
  · rw [if_pos hm]
    exact ni_error _ rfl
  · rw [if_neg hm]
    obtain ⟨h1, h2⟩ := ni_foldlM lexStep TInv itemOK lexStep_ni items hp {}
      ⟨bindOK_nil, hasBuilt_new, fun d hd => by cases hd⟩
    exact failsOnly_bind h1 (fun g hg => lexPost_ni g (h2 g hg))

end Lexgen
