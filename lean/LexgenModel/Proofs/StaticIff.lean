import LexgenModel.Spec.StaticOK
import LexgenModel.Proofs.CompileTotal
import LexgenModel.Proofs.Static
/-!
# The model of the macro accepts exactly the `StaticOK` definitions

Every stage is analysed twice, through the inversions of `Proofs/Glue.lean`: if it succeeds its static
condition holds, and if the condition holds it fails only with an `.internal` error (`OI`; totality
then leaves success). The folds carry a state computed from the prefix read so far (`RTop`, `RRS`) and
a condition on each item given that prefix (`QTop`, `QRS`); `staticOK_iff_split` turns the clauses of
`StaticOK` into such conditions at every position (`splits_of_snoc`). The fuel `b.length + 1` of
`inlineVars` is never the limiting factor: a chain of `k` nested references that succeeds goes through
`k` different bound names.

The model stops at the first violated check, so which error is reported depends on the order of the
checks; for an iff on success this is irrelevant. The only clause whose scope needs care is the binding
one: bindings are looked up lazily (at the use site, in the scope at that point), so an unbound or cyclic
`let` that is never used is accepted, and a top-level `let` declared after a rule set is invisible in it
(and may reuse one of its local names).
-/
namespace Lexgen
namespace StaticIff
open Static CompileTotal

def OI {α : Type} (x : Except CompileError α) : Prop := FailsOnly (fun e => e.isInternal = true) x

theorem oi_ok {α : Type} (v : α) : OI (Except.ok v : Except CompileError α) := failsOnly_ok _ v

theorem oi_internal {α : Type} (s : String) : OI (Except.error (.internal s) : Except CompileError α) := by
  intro e h; cases h; rfl

theorem ok_of_oi_ni {α : Type} {x : Except CompileError α} (h1 : OI x) (h2 : NI x) : ∃ v, x = .ok v := by
  cases x with
  | ok v => exact ⟨v, rfl⟩
  | error e =>
    have a := h1 e rfl
    have b := h2 e rfl
    rw [a] at b
    cases b

theorem classExpr_iff (re : Regex) : ClassExpr re ↔ ∃ m, regexToRangeMap re = .ok m := by
  induction re with
  | builtin n =>
    simp only [ClassExpr, regexToRangeMap]
    cases builtinRanges n with
    | none => simp
    | some rs => simp
  | var _ | str _ | star _ _ | plus _ _ | opt _ _ | cat _ _ _ _ | eoi =>
    exact ⟨False.elim, fun ⟨_, h⟩ => nomatch h⟩
  | chr _ | set _ | any => exact ⟨fun _ => ⟨_, rfl⟩, fun _ => trivial⟩
  | alt a b iha ihb | diff a b iha ihb =>
    simp only [ClassExpr, regexToRangeMap, iha, ihb]
    constructor
    · rintro ⟨⟨m1, h1⟩, ⟨m2, h2⟩⟩
      rw [h1, h2]
      exact ⟨_, rfl⟩
    · rintro ⟨m, h⟩
      obtain ⟨m1, h1, h⟩ := bind_eq_ok.mp h
      obtain ⟨m2, h2, h⟩ := bind_eq_ok.mp h
      exact ⟨⟨m1, h1⟩, ⟨m2, h2⟩⟩

theorem classOK_diff_iff (a b : Regex) : ClassOK (.diff a b) ↔ ∃ m, regexToRangeMap (.diff a b) = .ok m := by
  rw [← classExpr_iff]
  simp only [ClassOK, ClassExpr]

/-- the shape of every assertion of `nfa.rs`: fail with an internal error or go on -/
theorem oi_assert {α : Type} (c : Bool) (s : String) (v : α) :
    OI (if c = true then Except.error (.internal s) else Except.ok v) := by
  cases c
  · exact oi_ok v
  · exact oi_internal s

theorem addCharTransition_oi (n : NFA) (s c next : Nat) : OI (n.addCharTransition s c next) := by
  unfold NFA.addCharTransition
  show OI (match List.find? (fun e => decide (e.fst = c)) (n.st s).chars with
    | some (_, tgts) => if tgts.contains next = true then _ else _
    | none => _)
  split
  · exact oi_assert _ _ _
  · exact oi_ok _

theorem addEmptyTransition_oi (n : NFA) (s next : Nat) : OI (n.addEmptyTransition s next) :=
  oi_assert _ _ _

theorem addAnyTransition_oi (n : NFA) (s next : Nat) : OI (n.addAnyTransition s next) :=
  oi_assert _ _ _

theorem addEoiTransition_oi (n : NFA) (s next : Nat) : OI (n.addEoiTransition s next) :=
  oi_assert _ _ _

theorem makeStateAccepting_oi (n : NFA) (s : Nat) (a : Acc) : OI (n.makeStateAccepting s a) :=
  oi_assert _ _ _

theorem addStr_oi (cs : List Nat) : ∀ (cur cont : Nat) (n : NFA), OI (NFA.addStr cs cur cont n) := by
  induction cs with
  | nil => intro cur cont n; exact oi_ok _
  | cons c cs ih =>
    intro cur cont n
    cases cs with
    | nil => exact addCharTransition_oi _ _ _ _
    | cons c' cs =>
      simp only [NFA.addStr]
      exact failsOnly_bind (addCharTransition_oi _ _ _ _) (fun _ _ => ih _ _ _)

theorem addSet_oi (items : List CharOrRange) : ∀ (seen : List Nat) (cur cont : Nat) (n : NFA),
    OI (NFA.addSet items seen cur cont n) := by
  induction items with
  | nil => intro seen cur cont n; exact oi_ok _
  | cons it items ih =>
    intro seen cur cont n
    cases it with
    | chr c =>
      simp only [NFA.addSet]
      split
      · exact ih _ _ _ _
      · exact failsOnly_bind (addCharTransition_oi _ _ _ _) (fun _ _ => ih _ _ _ _)
    | rng s e =>
      simp only [NFA.addSet]
      exact ih _ _ _ _

theorem addRe_oi (re : Regex) : ClassOK re → ∀ (cur cont : Nat) (n : NFA), OI (NFA.addRe re cur cont n) := by
  induction re with
  | builtin name =>
    intro h cur cont n
    simp only [ClassOK] at h
    simp only [NFA.addRe]
    cases hb : builtinRanges name with
    | none => exact absurd hb h
    | some rs => exact oi_ok _
  | var name => intro h; exact absurd h (by simp only [ClassOK, not_false_eq_true])
  | chr c => intro _ cur cont n; exact addCharTransition_oi _ _ _ _
  | str cs => intro _ cur cont n; exact addStr_oi _ _ _ _
  | set items => intro _ cur cont n; exact addSet_oi _ _ _ _ _
  | star r ih =>
    intro h cur cont n
    simp only [NFA.addRe]
    refine failsOnly_bind (ih h _ _ _) (fun _ _ => ?_)
    refine failsOnly_bind (addEmptyTransition_oi _ _ _) (fun _ _ => ?_)
    refine failsOnly_bind (addEmptyTransition_oi _ _ _) (fun _ _ => ?_)
    exact failsOnly_bind (addEmptyTransition_oi _ _ _) (fun _ _ => addEmptyTransition_oi _ _ _)
  | plus r ih =>
    intro h cur cont n
    simp only [NFA.addRe]
    refine failsOnly_bind (ih h _ _ _) (fun _ _ => ?_)
    refine failsOnly_bind (addEmptyTransition_oi _ _ _) (fun _ _ => ?_)
    exact failsOnly_bind (addEmptyTransition_oi _ _ _) (fun _ _ => addEmptyTransition_oi _ _ _)
  | opt r ih =>
    intro h cur cont n
    simp only [NFA.addRe]
    refine failsOnly_bind (ih h _ _ _) (fun _ _ => ?_)
    exact failsOnly_bind (addEmptyTransition_oi _ _ _) (fun _ _ => addEmptyTransition_oi _ _ _)
  | cat a b iha ihb =>
    intro h cur cont n
    simp only [NFA.addRe]
    exact failsOnly_bind (iha h.1 _ _ _) (fun _ _ => ihb h.2 _ _ _)
  | alt a b iha ihb =>
    intro h cur cont n
    simp only [NFA.addRe]
    refine failsOnly_bind (iha h.1 _ _ _) (fun _ _ => ?_)
    refine failsOnly_bind (ihb h.2 _ _ _) (fun _ _ => ?_)
    exact failsOnly_bind (addEmptyTransition_oi _ _ _) (fun _ _ => addEmptyTransition_oi _ _ _)
  | any => intro _ cur cont n; exact addAnyTransition_oi _ _ _
  | eoi => intro _ cur cont n; exact addEoiTransition_oi _ _ _
  | diff a b _ _ =>
    intro h cur cont n
    obtain ⟨m, hm⟩ := (classOK_diff_iff a b).mp h
    simp only [NFA.addRe, hm]
    exact oi_ok _

theorem addRe_ok_classOK (re : Regex) : ∀ (cur cont : Nat) (n n' : NFA),
    NFA.addRe re cur cont n = .ok n' → ClassOK re := by
  induction re with
  | builtin name =>
    intro cur cont n n' h
    simp only [NFA.addRe] at h
    simp only [ClassOK]
    intro hb
    rw [hb] at h
    cases h
  | var name => intro cur cont n n' h; simp only [NFA.addRe] at h; cases h
  | chr _ | str _ | set _ | any | eoi => intro _ _ _ _ _; simp only [ClassOK]
  | star r ih | plus r ih | opt r ih =>
    intro cur cont n n' h
    simp only [NFA.addRe] at h
    obtain ⟨n1, h1, _⟩ := bind_eq_ok.mp h
    simp only [ClassOK]
    exact ih _ _ _ _ h1
  | cat a b iha ihb =>
    intro cur cont n n' h
    simp only [NFA.addRe] at h
    obtain ⟨n1, h1, h⟩ := bind_eq_ok.mp h
    simp only [ClassOK]
    exact ⟨iha _ _ _ _ h1, ihb _ _ _ _ h⟩
  | alt a b iha ihb =>
    intro cur cont n n' h
    simp only [NFA.addRe] at h
    obtain ⟨n1, h1, h⟩ := bind_eq_ok.mp h
    obtain ⟨n2, h2, h⟩ := bind_eq_ok.mp h
    simp only [ClassOK]
    exact ⟨iha _ _ _ _ h1, ihb _ _ _ _ h2⟩
  | diff a b _ _ =>
    intro cur cont n n' h
    simp only [NFA.addRe] at h
    obtain ⟨m, hm, _⟩ := bind_eq_ok.mp h
    exact (classOK_diff_iff a b).mpr ⟨m, hm⟩

theorem addRegex_oi (n : NFA) (re : Regex) (ctx : Option Nat) (value : Nat) (h : ClassOK re) :
    OI (n.addRegex re ctx value) := by
  simp only [NFA.addRegex]
  refine failsOnly_bind (makeStateAccepting_oi _ _ _) (fun _ _ => ?_)
  refine failsOnly_bind (addEmptyTransition_oi _ _ _) (fun _ _ => ?_)
  exact addRe_oi re h _ _ _

theorem addRegex_ok_classOK (n n' : NFA) (re : Regex) (ctx : Option Nat) (value : Nat)
    (h : n.addRegex re ctx value = .ok n') : ClassOK re := by
  simp only [NFA.addRegex] at h
  obtain ⟨n1, _, h⟩ := bind_eq_ok.mp h
  obtain ⟨n2, _, h⟩ := bind_eq_ok.mp h
  exact addRe_ok_classOK re _ _ _ _ h

theorem newRightCtx_ok_elab {ctxs c1 : List (DFA Nat)} {b : Bindings} {c : Regex} {i : Nat}
    (h : newRightCtx ctxs b c = .ok (c1, i)) : Elaborates b c := by
  obtain ⟨re, nfa, _, hre, hnfa, _⟩ := newRightCtx_eq_ok.mp h
  exact ⟨re, hre, addRegex_ok_classOK _ _ _ _ _ hnfa⟩

theorem newRightCtx_oi (ctxs : List (DFA Nat)) (b : Bindings) (c : Regex) (h : Elaborates b c) :
    OI (newRightCtx ctxs b c) := by
  obtain ⟨re, hre, hok⟩ := h
  unfold newRightCtx
  rw [hre]
  apply failsOnly_bind (oi_ok _)
  intro v hv
  cases hv
  apply failsOnly_bind (addRegex_oi _ _ _ _ hok)
  intro nfa _
  cases nfaToDfa nfa with
  | none => exact oi_internal _
  | some d => exact oi_ok _

theorem compileSingleRule_ok_elab {nfa n1 : NFA} {r : SingleRule} {b : Bindings} {ctxs c1 : List (DFA Nat)}
    (h : compileSingleRule nfa r b ctxs = .ok (n1, c1)) : RuleElaborates b r := by
  obtain ⟨re, hre, hcase⟩ := compileSingleRule_eq_ok.mp h
  rcases hcase with ⟨hc, _, hadd⟩ | ⟨c, i, hc, hx, hadd⟩
  · exact ⟨⟨re, hre, addRegex_ok_classOK _ _ _ _ _ hadd⟩, fun c' hc' => by rw [hc] at hc'; cases hc'⟩
  · refine ⟨⟨re, hre, addRegex_ok_classOK _ _ _ _ _ hadd⟩, fun c' hc' => ?_⟩
    rw [hc] at hc'
    cases hc'
    exact newRightCtx_ok_elab hx

theorem compileSingleRule_oi (nfa : NFA) (r : SingleRule) (b : Bindings) (ctxs : List (DFA Nat))
    (h : RuleElaborates b r) : OI (compileSingleRule nfa r b ctxs) := by
  obtain ⟨⟨re, hre, hok⟩, hctx⟩ := h
  intro e he
  rcases compileSingleRule_eq_error he with ⟨c, hc, he⟩ | he | ⟨re1, ctx, hre1, he⟩
  · exact newRightCtx_oi _ _ _ (hctx c hc) e he
  · rw [hre] at he
    cases he
  · rw [hre] at hre1
    cases hre1
    exact addRegex_oi _ _ _ _ hok e he

def QRS (outer : Bindings) (p : List RuleOrBinding) (x : RuleOrBinding) : Prop :=
  match x with
  | .rule r => RuleElaborates (outer ++ localBindings p) r
  | .binding n _ => n ∉ boundNames (outer ++ localBindings p)

theorem ruleSetOK_iff (outer : Bindings) (rs : List RuleOrBinding) :
    RuleSetOK outer rs ↔ ∀ rpre x rpost, rs = rpre ++ x :: rpost → QRS outer rpre x := by
  constructor
  · intro h rpre x rpost e
    cases x with
    | rule r => exact h.ruleElab rpre r rpost e
    | binding n re => exact h.letFresh rpre n re rpost e
  · intro h
    exact ⟨fun rpre x re rpost e => h rpre _ rpost e, fun rpre r rpost e => h rpre _ rpost e⟩

theorem localBindings_snoc_rule (p : List RuleOrBinding) (r : SingleRule) :
    localBindings (p ++ [.rule r]) = localBindings p := by
  simp [localBindings, List.filterMap_append]

theorem localBindings_snoc_binding (p : List RuleOrBinding) (n : String) (re : Regex) :
    localBindings (p ++ [.binding n re]) = localBindings p ++ [(n, re)] := by
  simp [localBindings, List.filterMap_append]

def RRS (outer : Bindings) (p : List RuleOrBinding) (acc : NFA × Bindings × List (DFA Nat)) : Prop :=
  acc.2.1 = outer ++ localBindings p

theorem rrs_init (outer : Bindings) (acc : NFA × List (DFA Nat)) : RRS outer [] (acc.1, outer, acc.2) :=
  (List.append_nil outer).symm

theorem rsStep_ok (outer : Bindings) (p : List RuleOrBinding) (acc : NFA × Bindings × List (DFA Nat))
    (x : RuleOrBinding) (acc' : NFA × Bindings × List (DFA Nat)) (hR : RRS outer p acc)
    (h : rsStep acc x = .ok acc') : QRS outer p x ∧ RRS outer (p ++ [x]) acc' := by
  unfold RRS at hR ⊢
  cases x with
  | rule r =>
    obtain ⟨nfa, ctxs, hc, rfl⟩ := rsStep_rule_eq_ok.mp h
    refine ⟨?_, by rw [localBindings_snoc_rule]; exact hR⟩
    show RuleElaborates (outer ++ localBindings p) r
    rw [← hR]
    exact compileSingleRule_ok_elab hc
  | binding n re =>
    obtain ⟨hb, rfl⟩ := rsStep_binding_eq_ok.mp h
    refine ⟨?_, by rw [localBindings_snoc_binding, ← List.append_assoc, ← hR]⟩
    show n ∉ boundNames (outer ++ localBindings p)
    rw [← hR, ← find?_isSome_iff, hb]
    exact Bool.false_ne_true

theorem rsStep_oi (outer : Bindings) (p : List RuleOrBinding) (acc : NFA × Bindings × List (DFA Nat))
    (x : RuleOrBinding) (hR : RRS outer p acc) (hQ : QRS outer p x) :
    OI (rsStep acc x) ∧ ∀ acc', rsStep acc x = .ok acc' → RRS outer (p ++ [x]) acc' := by
  refine ⟨fun e he => ?_, fun acc' h => (rsStep_ok outer p acc x acc' hR h).2⟩
  unfold RRS at hR
  cases x with
  | rule r =>
    have hQ' : RuleElaborates (outer ++ localBindings p) r := hQ
    rw [← hR] at hQ'
    exact compileSingleRule_oi _ _ _ _ hQ' e (rsStep_rule_eq_error.mp he)
  | binding n re =>
    have hQ' : n ∉ boundNames (outer ++ localBindings p) := hQ
    rw [← hR, ← find?_isSome_iff] at hQ'
    exact absurd (rsStep_binding_eq_error.mp he).1 hQ'

theorem compileRuleSet_ok_static {rules : List RuleOrBinding} {b : Bindings} {ctxs ctxs' : List (DFA Nat)}
    {d : DFA Nat} (h : compileRuleSet rules b ctxs = .ok (d, ctxs')) : RuleSetOK b rules := by
  obtain ⟨nfa, b', hacc, _⟩ := compileRuleSet_eq_ok.mp h
  exact (ruleSetOK_iff b rules).mpr
    (foldlM_ok_splits (rsStep_ok b) rules [] _ _ (rrs_init b (NFA.new, ctxs)) hacc).1

theorem compileRuleSet_oi (rules : List RuleOrBinding) (b : Bindings) (ctxs : List (DFA Nat))
    (h : RuleSetOK b rules) : OI (compileRuleSet rules b ctxs) := by
  intro e he
  rcases compileRuleSet_eq_error he with he | ⟨_, _, _, rfl⟩
  · exact (foldlM_splits (E := fun e : CompileError => e.isInternal = true) (rsStep_oi b) rules [] _
      (rrs_init b (NFA.new, ctxs)) ((ruleSetOK_iff b rules).mp h)).1 e he
  · rfl

def QTop (p : List TopItem) (x : TopItem) : Prop :=
  match x with
  | .errorType => errorTypeDecls p = 0
  | .rb (.binding n _) => n ∉ boundNames (topBindings p)
  | .rb (.rule r) => RuleElaborates (topBindings p) r
  | .ruleSet n rs =>
    (ruleSetNames p = [] → n = "Init") ∧ n ∉ ruleSetNames p ∧ RuleSetOK (topBindings p) rs

structure RTop (p : List TopItem) (g : GlueState) : Prop where
  bindings : g.bindings = topBindings p
  errorType : g.errorType = true ↔ errorTypeDecls p ≠ 0
  entries : g.entries.map (·.1) = ruleSetNames p
  initDfa : g.initDfa = none ↔ ruleSetNames p = []

theorem rTop_init : RTop [] {} :=
  ⟨rfl, by simp [errorTypeDecls], rfl, by simp [ruleSetNames]⟩

theorem topBindings_snoc (p : List TopItem) (x : TopItem) :
    topBindings (p ++ [x]) = topBindings p ++
      (match x with | .rb (.binding n re) => [(n, re)] | _ => []) := by
  unfold topBindings
  rw [List.filterMap_append]
  cases x with
  | errorType => rfl
  | ruleSet n rs => rfl
  | rb y => cases y <;> rfl

theorem ruleSetNames_snoc (p : List TopItem) (x : TopItem) :
    ruleSetNames (p ++ [x]) = ruleSetNames p ++ (match x with | .ruleSet n _ => [n] | _ => []) := by
  unfold ruleSetNames
  rw [List.filterMap_append]
  cases x with
  | errorType => rfl
  | ruleSet n rs => rfl
  | rb y => rfl

theorem errorTypeDecls_snoc (p : List TopItem) (x : TopItem) :
    errorTypeDecls (p ++ [x]) = errorTypeDecls p + (match x with | .errorType => 1 | _ => 0) := by
  unfold errorTypeDecls
  rw [List.countP_append]
  cases x with
  | errorType => rfl
  | ruleSet n rs => rfl
  | rb y => rfl

theorem lexStep_ok (p : List TopItem) (g : GlueState) (x : TopItem) (g' : GlueState) (hR : RTop p g)
    (h : lexStep g x = .ok g') : QTop p x ∧ RTop (p ++ [x]) g' := by
  refine lexStep_ok_cases (R := fun _ x g' => QTop p x ∧ RTop (p ++ [x]) g') h ?_ ?_ ?_ ?_
  · intro he
    have h0 : errorTypeDecls p = 0 :=
      Classical.byContradiction fun hc => by rw [hR.errorType.mpr hc] at he; cases he
    refine ⟨h0, ⟨?_, ?_, ?_, ?_⟩⟩
    · rw [topBindings_snoc, List.append_nil]; exact hR.bindings
    · rw [errorTypeDecls_snoc]; exact ⟨fun _ => Nat.succ_ne_zero _, fun _ => rfl⟩
    · rw [ruleSetNames_snoc, List.append_nil]; exact hR.entries
    · rw [ruleSetNames_snoc, List.append_nil]; exact hR.initDfa
  · intro n re hb
    refine ⟨?_, ⟨?_, ?_, ?_, ?_⟩⟩
    · show n ∉ boundNames (topBindings p)
      rw [← hR.bindings, ← find?_isSome_iff, hb]
      exact Bool.false_ne_true
    · rw [topBindings_snoc, ← hR.bindings]
    · rw [errorTypeDecls_snoc, Nat.add_zero]; exact hR.errorType
    · rw [ruleSetNames_snoc, List.append_nil]; exact hR.entries
    · rw [ruleSetNames_snoc, List.append_nil]; exact hR.initDfa
  · intro r nfa ctxs hc
    refine ⟨?_, ⟨?_, ?_, ?_, ?_⟩⟩
    · show RuleElaborates (topBindings p) r
      rw [← hR.bindings]
      exact compileSingleRule_ok_elab hc
    · rw [topBindings_snoc, List.append_nil]; exact hR.bindings
    · rw [errorTypeDecls_snoc, Nat.add_zero]; exact hR.errorType
    · rw [ruleSetNames_snoc, List.append_nil]; exact hR.entries
    · rw [ruleSetNames_snoc, List.append_nil]; exact hR.initDfa
  · intro name rules d ctxs full idx hc hdup hcase
    refine ⟨⟨?_, ?_, ?_⟩, ⟨?_, ?_, ?_, ?_⟩⟩
    · intro hnil
      rcases hcase with ⟨hn, _⟩ | ⟨_, d0, hd0, _⟩
      · exact hn
      · rw [hR.initDfa.mpr hnil] at hd0
        cases hd0
    · rw [← hR.entries, ← entries_isSome_iff, hdup]
      exact Bool.false_ne_true
    · rw [← hR.bindings]
      exact compileRuleSet_ok_static hc
    · rw [topBindings_snoc, List.append_nil]; exact hR.bindings
    · rw [errorTypeDecls_snoc, Nat.add_zero]; exact hR.errorType
    · rw [ruleSetNames_snoc, ← hR.entries]
      exact List.map_append
    · rw [ruleSetNames_snoc]
      exact ⟨nofun, fun h => absurd h (List.append_ne_nil_of_right_ne_nil _ (List.cons_ne_nil _ _))⟩

theorem lexStep_oi (p : List TopItem) (g : GlueState) (x : TopItem) (hR : RTop p g) (hQ : QTop p x) :
    OI (lexStep g x) ∧ ∀ g', lexStep g x = .ok g' → RTop (p ++ [x]) g' := by
  refine ⟨fun e he => ?_, fun g' h => (lexStep_ok p g x g' hR h).2⟩
  cases x with
  | errorType =>
    have hQ' : errorTypeDecls p = 0 := hQ
    exact absurd hQ' (hR.errorType.mp (lexStep_errorType_eq_error.mp he).1)
  | rb y =>
    cases y with
    | binding n re =>
      have hQ' : n ∉ boundNames (topBindings p) := hQ
      rw [← hR.bindings, ← find?_isSome_iff] at hQ'
      exact absurd (lexStep_binding_eq_error.mp he).1 hQ'
    | rule r =>
      have hQ' : RuleElaborates (topBindings p) r := hQ
      rw [← hR.bindings] at hQ'
      exact compileSingleRule_oi _ _ _ _ hQ' e (lexStep_rule_eq_error.mp he)
  | ruleSet name rules =>
    obtain ⟨hQ1, hQ2, hQ3⟩ : (ruleSetNames p = [] → name = "Init") ∧ name ∉ ruleSetNames p ∧
      RuleSetOK (topBindings p) rules := hQ
    rcases lexStep_ruleSet_eq_error he with ⟨hn, hnone, _⟩ | he | ⟨hdup, _⟩
    · exact absurd (hQ1 (hR.initDfa.mp hnone)) hn
    · rw [← hR.bindings] at hQ3
      exact compileRuleSet_oi _ _ _ hQ3 e he
    · rw [entries_isSome_iff, hR.entries] at hdup
      exact absurd hdup hQ2

theorem simplifyState_oi (d : DFA Nat) (empties : List Nat) (s : DState Nat) :
    OI (simplifyState d empties s) := by
  unfold simplifyState
  apply failsOnly_bind
  · apply failsOnly_mapM
    intro p _
    cases mapTransition d empties p with
    | goto p' => exact oi_ok _
    | accept _ => exact oi_internal _
  · intro _ _
    exact oi_ok _

theorem simplify_oi (d : DFA Nat) (entries : List (String × Nat)) : OI (simplify d entries) := by
  unfold simplify
  apply failsOnly_bind
  · apply failsOnly_mapM
    intro i _
    exact simplifyState_oi _ _ _
  · intro _ _
    exact oi_ok _

theorem lexPost_oi (g : GlueState) : OI (lexPost g) := by
  intro e he
  rcases lexPost_eq_error he with ⟨_, _, rfl⟩ | ⟨_, _, ⟨_, rfl⟩ | ⟨full, _, he⟩⟩
  · rfl
  · rfl
  · exact simplify_oi _ _ e he

theorem compileLexer_ok_split {items : LexerDef} {c : Compiled} (h : compileLexer items = .ok c) :
    mixedRules items = false ∧ ∀ pre x post, items = pre ++ x :: post → QTop pre x := by
  obtain ⟨hm, g, hg, _⟩ := compileLexer_eq_ok.mp h
  exact ⟨hm, (foldlM_ok_splits lexStep_ok items [] {} g rTop_init hg).1⟩

theorem compileLexer_oi (items : LexerDef) (hm : mixedRules items = false)
    (hQ : ∀ pre x post, items = pre ++ x :: post → QTop pre x) : OI (compileLexer items) := by
  intro e he
  rcases compileLexer_eq_error.mp he with ⟨hm', _⟩ | ⟨_, he | ⟨g, _, he⟩⟩
  · rw [hm] at hm'
    cases hm'
  · exact (foldlM_splits (E := fun e : CompileError => e.isInternal = true) lexStep_oi items [] {}
      rTop_init hQ).1 e he
  · exact lexPost_oi g e he

def AllSplits {α : Type} (P : List α → α → Prop) (p : List α) : List α → Prop
  | [] => True
  | x :: l => P p x ∧ AllSplits P (p ++ [x]) l

theorem allSplits_iff {α : Type} (P : List α → α → Prop) : ∀ (l p : List α),
    AllSplits P p l ↔ ∀ pre x post, l = pre ++ x :: post → P (p ++ pre) x := by
  intro l
  induction l with
  | nil =>
    intro p
    simp only [AllSplits, true_iff]
    intro pre x post e
    cases pre <;> cases e
  | cons a l ih =>
    intro p
    simp only [AllSplits, ih]
    constructor
    · rintro ⟨h1, h2⟩ pre x post e
      cases pre with
      | nil => cases e; rw [List.append_nil]; exact h1
      | cons a' pre =>
        cases e
        have := h2 pre x post rfl
        rw [List.append_assoc] at this
        exact this
    · intro h
      refine ⟨by have := h [] a l rfl; rw [List.append_nil] at this; exact this, ?_⟩
      intro pre x post e
      have := h (a :: pre) x post (by rw [e]; rfl)
      rw [List.append_assoc]
      exact this

theorem allSplits_of_snoc {α : Type} {C : List α → Prop} {q : List α → α → Prop}
    (hs : ∀ p x, C (p ++ [x]) ↔ C p ∧ q p x) : ∀ (l p : List α), C (p ++ l) ↔ C p ∧ AllSplits q p l
  | [], p => by
    rw [List.append_nil]
    exact ⟨fun h => ⟨h, trivial⟩, And.left⟩
  | x :: l, p => by
    rw [List.append_cons, allSplits_of_snoc hs l (p ++ [x]), hs, and_assoc]
    rfl

theorem splits_of_snoc {α : Type} {C : List α → Prop} {q : List α → α → Prop} (h0 : C [])
    (hs : ∀ p x, C (p ++ [x]) ↔ C p ∧ q p x) (l : List α) :
    C l ↔ ∀ pre x post, l = pre ++ x :: post → q pre x := by
  have h := allSplits_of_snoc hs l []
  rw [allSplits_iff] at h
  exact ⟨fun hc => (h.mp hc).2, fun hq => h.mpr ⟨h0, hq⟩⟩

theorem nodup_snoc {α : Type} (l : List α) (a : α) : (l ++ [a]).Nodup ↔ l.Nodup ∧ a ∉ l := by
  rw [List.nodup_append]
  refine ⟨fun h => ⟨h.1, fun ha => h.2.2 a ha a List.mem_cons_self rfl⟩,
    fun h => ⟨h.1, List.nodup_cons.mpr ⟨List.not_mem_nil, List.nodup_nil⟩, fun x hx y hy e => ?_⟩⟩
  rw [List.mem_singleton] at hy
  subst hy
  subst e
  exact h.2 hx

theorem errorTypeOnce_iff (l : List TopItem) :
    errorTypeDecls l ≤ 1 ↔ ∀ pre x post, l = pre ++ x :: post → x = .errorType → errorTypeDecls pre = 0 :=
  splits_of_snoc (C := fun l => errorTypeDecls l ≤ 1) (Nat.zero_le 1) (fun p x => by
    rw [errorTypeDecls_snoc]
    cases x with
    | errorType =>
      show errorTypeDecls p + 1 ≤ 1 ↔ _
      exact ⟨fun h => ⟨Nat.le_of_succ_le h, fun _ => Nat.le_zero.mp (Nat.le_of_succ_le_succ h)⟩,
        fun h => Nat.le_of_eq (congrArg (· + 1) (h.2 rfl))⟩
    | rb y => exact ⟨fun h => ⟨h, nofun⟩, And.left⟩
    | ruleSet n rs => exact ⟨fun h => ⟨h, nofun⟩, And.left⟩) l

theorem ruleSetsDistinct_iff (l : List TopItem) :
    (ruleSetNames l).Nodup ↔
      ∀ pre x post, l = pre ++ x :: post → ∀ n rs, x = .ruleSet n rs → n ∉ ruleSetNames pre :=
  splits_of_snoc (C := fun l => (ruleSetNames l).Nodup) List.nodup_nil (fun p x => by
    rw [ruleSetNames_snoc]
    cases x with
    | ruleSet m rs =>
      rw [nodup_snoc]
      exact ⟨fun h => ⟨h.1, fun n rs' e => by cases e; exact h.2⟩, fun h => ⟨h.1, h.2 m rs rfl⟩⟩
    | errorType | rb y =>
      simp only [List.append_nil]
      exact ⟨fun h => ⟨h, nofun⟩, And.left⟩) l

theorem firstIsInit_iff (l : List TopItem) :
    (∀ n, (ruleSetNames l).head? = some n → n = "Init") ↔
      ∀ pre x post, l = pre ++ x :: post → ∀ n rs, x = .ruleSet n rs → ruleSetNames pre = [] → n = "Init" :=
  splits_of_snoc (C := fun l => ∀ n, (ruleSetNames l).head? = some n → n = "Init") nofun (fun p x => by
    rw [ruleSetNames_snoc]
    cases x with
    | ruleSet m rs =>
      cases ruleSetNames p with
      | nil => exact ⟨fun h => ⟨nofun, fun n rs' e _ => by cases e; exact h m rfl⟩,
          fun h n e => by cases e; exact h.2 m rs rfl rfl⟩
      | cons a t => exact ⟨fun h => ⟨h, fun _ _ _ e => nomatch e⟩, And.left⟩
    | errorType | rb y =>
      simp only [List.append_nil]
      exact ⟨fun h => ⟨h, nofun⟩, And.left⟩) l

theorem topLetsDistinct_iff (l : List TopItem) :
    (boundNames (topBindings l)).Nodup ↔
      ∀ pre x post, l = pre ++ x :: post → ∀ n re, x = .rb (.binding n re) → n ∉ boundNames (topBindings pre) :=
  splits_of_snoc (C := fun l => (boundNames (topBindings l)).Nodup) List.nodup_nil (fun p x => by
    rw [topBindings_snoc]
    unfold boundNames
    rcases x with _ | (_ | ⟨m, re⟩) | _
    case rb.binding =>
      rw [List.map_append, List.map_singleton, nodup_snoc]
      exact ⟨fun h => ⟨h.1, fun n re' e => by cases e; exact h.2⟩, fun h => ⟨h.1, h.2 m re rfl⟩⟩
    all_goals
      simp only [List.append_nil]
      exact ⟨fun h => ⟨h, nofun⟩, And.left⟩) l

theorem staticOK_iff_split (items : LexerDef) :
    StaticOK items ↔
      (mixedRules items = false ∧ ∀ pre x post, items = pre ++ x :: post → QTop pre x) := by
  constructor
  · intro h
    refine ⟨h.notMixed, ?_⟩
    intro pre x post e
    cases x with
    | errorType => exact (errorTypeOnce_iff items).mp h.errorTypeOnce pre _ post e rfl
    | rb y =>
      cases y with
      | binding n re => exact (topLetsDistinct_iff items).mp h.topLetsDistinct pre _ post e n re rfl
      | rule r => exact h.topRules pre r post e
    | ruleSet n rs =>
      exact ⟨(firstIsInit_iff items).mp h.firstIsInit pre _ post e n rs rfl,
        (ruleSetsDistinct_iff items).mp h.ruleSetsDistinct pre _ post e n rs rfl,
        h.ruleSets pre n rs post e⟩
  · rintro ⟨hm, hQ⟩
    refine ⟨hm, ?_, ?_, ?_, ?_, ?_, ?_⟩
    · exact (errorTypeOnce_iff items).mpr (fun pre x post e hx => by subst hx; exact hQ pre _ post e)
    · exact (ruleSetsDistinct_iff items).mpr (fun pre x post e n rs hx => by subst hx; exact (hQ pre _ post e).2.1)
    · exact (firstIsInit_iff items).mpr (fun pre x post e n rs hx => by subst hx; exact (hQ pre _ post e).1)
    · exact (topLetsDistinct_iff items).mpr (fun pre x post e n re hx => by subst hx; exact hQ pre _ post e)
    · exact fun pre n rs post e => (hQ pre _ post e).2.2
    · exact fun pre r post e => hQ pre _ post e

end StaticIff

open StaticIff in
/-- What the model accepts is statically well-formed, whatever the bracket ranges. -/
theorem compileLexer_ok_static {items : LexerDef} {c : Compiled} (h : compileLexer items = .ok c) :
    StaticOK items :=
  (staticOK_iff_split items).mpr (compileLexer_ok_split h)

theorem rejected_of_not_static {items : LexerDef} (h : ¬ StaticOK items) : Rejected (compileLexer items) :=
  Static.rejected_of_not_ok fun _ hc => h (compileLexer_ok_static hc)

theorem not_mentionsVar_of_expands {b : Bindings} {n : String} (hb : b.find? n = none) {re re' : Regex}
    (h : Expands b re re') : ¬ MentionsVar n re := by
  induction h with
  | var hf _ _ =>
    intro hm
    cases (show _ = n from hm)
    rw [hb] at hf
    cases hf
  | star _ ih | plus _ ih | opt _ ih => exact ih
  | cat _ _ ihx ihy | alt _ _ ihx ihy | diff _ _ ihx ihy => exact fun hm => Or.elim hm ihx ihy
  | builtin _ | chr _ | str _ | set _ | any | eoi => exact id

theorem inlineVars_unbound (b : Bindings) (n : String) (hb : b.find? n = none) (re : Regex) (h : MentionsVar n re) (fuel : Nat) :
    Rejected (inlineVars b fuel re) :=
  Static.rejected_of_not_ok fun re' hok =>
    not_mentionsVar_of_expands hb (CompileTotal.expands_of_inlineVars b fuel re re' hok) h

theorem find?_none_of_not_mem {b : Bindings} {n : String} (h : n ∉ boundNames b) : b.find? n = none :=
  Option.not_isSome_iff_eq_none.mp fun hs => h ((find?_isSome_iff b n).mp hs)

theorem not_elaborates {b : Bindings} {re : Regex} {n : String} (hn : n ∉ boundNames b) (h : MentionsVar n re) :
    ¬ Elaborates b re := fun ⟨re', h1, _⟩ =>
  not_mentionsVar_of_expands (find?_none_of_not_mem hn) (CompileTotal.expands_of_inlineVars b _ re re' h1) h

theorem not_ruleElaborates {b : Bindings} {r : SingleRule} {n : String} (hn : n ∉ boundNames b)
    (h : MentionsVar n r.re ∨ ∃ c, r.ctx = some c ∧ MentionsVar n c) : ¬ RuleElaborates b r := by
  rintro ⟨h1, hctx⟩
  rcases h with h | ⟨c, hc, h⟩
  · exact not_elaborates hn h h1
  · exact not_elaborates hn h (hctx c hc)

theorem not_mem_topBindings {lets : LexerDef} {n : String}
    (hlets : ∀ it ∈ lets, it = .errorType ∨ ∃ m re, it = .rb (.binding m re) ∧ m ≠ n) :
    n ∉ boundNames (topBindings lets) := by
  intro hmem
  obtain ⟨⟨m, re⟩, hb, rfl⟩ := List.mem_map.mp hmem
  obtain ⟨it, hit, hfm⟩ := List.mem_filterMap.mp hb
  rcases hlets it hit with rfl | ⟨m', re', rfl, hne⟩
  · cases hfm
  · cases hfm
    exact hne rfl

theorem classExpr_isClassExpr {re : Regex} (h : ClassExpr re) : IsClassExpr re := by
  induction re with
  | chr _ | set _ | any | builtin _ => trivial
  | alt a b iha ihb | diff a b iha ihb => exact ⟨iha h.1, ihb h.2⟩
  | var _ | str _ | star _ _ | plus _ _ | opt _ _ | cat _ _ _ _ | eoi => exact False.elim h

theorem classExpr_known {n : String} {re : Regex} (h : ClassExpr re) (hm : MentionsBuiltin n re) :
    builtinRanges n ≠ none := by
  induction re with
  | builtin m =>
    cases (show m = n from hm)
    exact h
  | alt a b iha ihb | diff a b iha ihb => exact Or.elim hm (iha h.1) (ihb h.2)
  | chr _ | set _ | any => exact False.elim hm
  | var _ | str _ | star _ _ | plus _ _ | opt _ _ | cat _ _ _ _ | eoi => exact False.elim h

theorem classOK_known {n : String} {re : Regex} (h : ClassOK re) (hm : MentionsBuiltin n re) :
    builtinRanges n ≠ none := by
  induction re with
  | builtin m =>
    cases (show m = n from hm)
    exact h
  | star r ih | plus r ih | opt r ih => exact ih h hm
  | cat a b iha ihb | alt a b iha ihb => exact Or.elim hm (iha h.1) (ihb h.2)
  | diff a b _ _ => exact Or.elim hm (classExpr_known h.1) (classExpr_known h.2)
  | var _ | chr _ | str _ | set _ | any | eoi => exact False.elim hm

theorem addRe_unknown_builtin (n : String) (hn : builtinRanges n = none) (re : Regex) (h : MentionsBuiltin n re)
    (cur cont : Nat) (nfa : NFA) : Rejected (NFA.addRe re cur cont nfa) :=
  Static.rejected_of_not_ok fun n' hok => classOK_known (StaticIff.addRe_ok_classOK re _ _ _ n' hok) h hn

theorem addRe_diff_operand (a b : Regex) (h : ¬ IsClassExpr a ∨ ¬ IsClassExpr b) (cur cont : Nat) (nfa : NFA) :
    Rejected (NFA.addRe (.diff a b) cur cont nfa) :=
  Static.rejected_of_not_ok fun n' hok =>
    have hc : ClassExpr a ∧ ClassExpr b := StaticIff.addRe_ok_classOK (.diff a b) _ _ _ n' hok
    h.elim (· (classExpr_isClassExpr hc.1)) (· (classExpr_isClassExpr hc.2))

open StaticIff in
/-- **Exactly the `StaticOK` definitions are accepted**: for a definition whose bracket ranges are not
inverted, the model of the macro succeeds iff the definition satisfies the declarative conditions of
`Spec/StaticOK.lean`. -/
theorem compileLexer_ok_iff (items : LexerDef) (hp : ItemsPiecesOK items) :
    (∃ c, compileLexer items = .ok c) ↔ StaticOK items := by
  constructor
  · rintro ⟨c, h⟩
    exact compileLexer_ok_static h
  · intro h
    obtain ⟨hm, hQ⟩ := (staticOK_iff_split items).mp h
    exact ok_of_oi_ni (compileLexer_oi items hm hQ) (compileLexer_no_internal items hp)

namespace StaticIff

theorem ruleSetOK_iff_scan (outer : Bindings) (rs : List RuleOrBinding) :
    RuleSetOK outer rs ↔ AllSplits (QRS outer) [] rs := by
  rw [ruleSetOK_iff, allSplits_iff]
  simp only [List.nil_append]

theorem staticOK_iff_scan (items : LexerDef) :
    StaticOK items ↔ (mixedRules items = false ∧ AllSplits QTop [] items) := by
  rw [staticOK_iff_split, allSplits_iff]
  simp only [List.nil_append]

def exGood : LexerDef :=
  [ .rb (.binding "digit" (.set [.rng 48 57])),
    .rb (.binding "id_start" (.alt (.builtin "ascii_alphabetic") (.chr 95))),
    .errorType,
    .ruleSet "Init"
      [ .binding "ws" (.set [.chr 32, .chr 9, .chr 10]),
        .rule ⟨.plus (.var "ws"), none, 0⟩,
        .rule ⟨.cat (.var "id_start") (.star (.alt (.var "id_start") (.var "digit"))), none, 1⟩,
        .rule ⟨.diff .any (.var "digit"), some (.var "digit"), 2⟩,
        .rule ⟨.str [47, 42], none, 3⟩ ],
    .ruleSet "Comment"
      [ .rule ⟨.str [42, 47], none, 4⟩,
        .rule ⟨.any, none, 5⟩ ],
    .rb (.binding "ws" (.chr 120)) ]

example : StaticOK exGood := by
  rw [staticOK_iff_scan]
  refine ⟨by decide, ?_⟩
  simp [exGood, AllSplits, QTop, ruleSetOK_iff_scan, QRS, errorTypeDecls, topBindings, localBindings, boundNames, ruleSetNames,
    RuleElaborates, Elaborates, inlineVars, Bindings.find?, bind, Except.bind, pure, Except.pure, ClassOK, ClassExpr, builtinRanges, Generated.builtins]

/-- ill-formed 1: the first rule set is not `Init` -/
example : ¬ StaticOK [.ruleSet "Main" [.rule ⟨.chr 97, none, 0⟩], .ruleSet "Init" []] := by
  intro h
  have := h.firstIsInit "Main" rfl
  exact absurd this (by decide)

/-- ill-formed 2: a local `let` repeats a top-level `let` declared before the rule set -/
example : ¬ StaticOK [.rb (.binding "x" (.chr 97)), .ruleSet "Init" [.binding "x" (.chr 98)]] := by
  intro h
  have := (h.ruleSets [.rb (.binding "x" (.chr 97))] "Init" _ [] rfl).letFresh [] "x" (.chr 98) [] rfl
  exact this (by decide)

/-- ill-formed 3: a rule uses a top-level `let` that is declared only after the rule set -/
example : ¬ StaticOK [.ruleSet "Init" [.rule ⟨.var "x", none, 0⟩], .rb (.binding "x" (.chr 97))] := by
  intro h
  obtain ⟨⟨re', h1, _⟩, _⟩ := (h.ruleSets [] "Init" _ _ rfl).ruleElab [] ⟨.var "x", none, 0⟩ [] rfl
  simp [topBindings, localBindings, inlineVars, Bindings.find?] at h1

/-- ill-formed 4: a cyclic `let` that is used (`let a = $a; $a,`) -/
example : ¬ StaticOK [.rb (.binding "a" (.var "a")), .rb (.rule ⟨.var "a", none, 0⟩)] := by
  intro h
  obtain ⟨⟨re', h1, _⟩, _⟩ := h.topRules [.rb (.binding "a" (.var "a"))] ⟨.var "a", none, 0⟩ [] rfl
  simp [topBindings, inlineVars, Bindings.find?] at h1

/-- ill-formed 5: an operand of `#` that is not a class expression (`"ab" # 'b'`), and an unknown built-in -/
example : ¬ StaticOK [.rb (.rule ⟨.diff (.str [97, 98]) (.chr 98), none, 0⟩)] := by
  intro h
  obtain ⟨⟨re', h1, h2⟩, _⟩ := h.topRules [] _ [] rfl
  simp [topBindings, inlineVars, bind, Except.bind, pure, Except.pure] at h1
  subst h1
  simp [ClassOK, ClassExpr] at h2

example : ¬ StaticOK [.rb (.rule ⟨.plus (.builtin "digits"), none, 0⟩)] := by
  intro h
  obtain ⟨⟨re', h1, h2⟩, _⟩ := h.topRules [] _ [] rfl
  simp [topBindings, inlineVars, bind, Except.bind, pure, Except.pure] at h1
  subst h1
  simp [ClassOK, builtinRanges, Generated.builtins] at h2

/-- ill-formed 6: two `type Error` declarations; two rule sets with the same name; mixed rules -/
example : ¬ StaticOK [.errorType, .rb (.rule ⟨.chr 97, none, 0⟩), .errorType] := by
  intro h
  exact absurd h.errorTypeOnce (by decide)

example : ¬ StaticOK [.ruleSet "Init" [], .ruleSet "A" [], .ruleSet "A" []] := by
  intro h
  exact absurd h.ruleSetsDistinct (by decide)

example : ¬ StaticOK [.rb (.rule ⟨.chr 97, none, 0⟩), .ruleSet "Init" []] := by
  intro h
  exact absurd h.notMixed (by decide)

/-! corner cases that ARE accepted -/
example : StaticOK [] := by
  rw [staticOK_iff_scan]; exact ⟨rfl, trivial⟩

example : StaticOK [.ruleSet "Init" []] := by
  rw [staticOK_iff_scan]
  refine ⟨by decide, ?_⟩
  simp [AllSplits, QTop, ruleSetOK_iff_scan, ruleSetNames]

example : StaticOK [.rb (.binding "Init" (.chr 97)), .ruleSet "Init" [.rule ⟨.var "Init", none, 0⟩]] := by
  rw [staticOK_iff_scan]
  refine ⟨by decide, ?_⟩
  simp [AllSplits, QTop, ruleSetOK_iff_scan, QRS, topBindings, localBindings, boundNames, ruleSetNames,
    RuleElaborates, Elaborates, inlineVars, Bindings.find?, ClassOK]

example : ∃ c, compileLexer [] = .ok c :=
  (compileLexer_ok_iff [] (fun _ h => by cases h)).mpr (by rw [staticOK_iff_scan]; exact ⟨rfl, trivial⟩)

def Ok {α : Type} (x : Except CompileError α) : Prop := ∃ v, x = .ok v

theorem not_ok_error {α : Type} (e : CompileError) : ¬ Ok (Except.error e : Except CompileError α) := by
  rintro ⟨v, h⟩; cases h

theorem ok_map {α β : Type} (x : Except CompileError α) (g : α → β) :
    Ok (x >>= fun a => pure (g a)) ↔ Ok x := by
  cases x with
  | error e => exact ⟨fun h => absurd h (not_ok_error e), fun h => absurd h (not_ok_error e)⟩
  | ok v => exact ⟨fun _ => ⟨v, rfl⟩, fun _ => ⟨g v, rfl⟩⟩

theorem ok_map2 {α β : Type} (x y : Except CompileError α) (g : α → α → β) :
    Ok (x >>= fun a => y >>= fun c => pure (g a c)) ↔ Ok x ∧ Ok y := by
  cases x with
  | error e => exact ⟨fun h => absurd h (not_ok_error e), fun h => absurd h.1 (not_ok_error e)⟩
  | ok v =>
    cases y with
    | error e => exact ⟨fun h => absurd h (not_ok_error e), fun h => absurd h.2 (not_ok_error e)⟩
    | ok w => exact ⟨fun _ => ⟨⟨v, rfl⟩, ⟨w, rfl⟩⟩, fun _ => ⟨g v w, rfl⟩⟩

section
variable (b : Bindings)

theorem inlineVars_mono : ∀ (k : Nat) (re re' : Regex),
    inlineVars b k re = .ok re' → inlineVars b (k + 1) re = .ok re' := by
  intro k re
  fun_induction inlineVars b k re with
  | case2 n => exact nofun
  | case3 k n hf => exact nofun
  | case4 k n r hf ih =>
    intro re' h
    simp only [inlineVars, hf]
    exact ih re' h
  | case8 k r ih | case9 k r ih | case10 k r ih =>
    intro re' h
    simp only [inlineVars]
    obtain ⟨r', h1, h2⟩ := bind_eq_ok.mp h
    rw [ih r' h1]
    exact h2
  | case11 k x y ihx ihy | case12 k x y ihx ihy | case15 k x y ihx ihy =>
    intro re' h
    simp only [inlineVars]
    obtain ⟨x', h1, h2⟩ := bind_eq_ok.mp h
    obtain ⟨y', h3, h4⟩ := bind_eq_ok.mp h2
    rw [ihx x' h1]
    show (inlineVars b (k + 1) y >>= _) = _
    rw [ihy y' h3]
    exact h4
  | case1 | case5 | case6 | case7 | case13 | case14 =>
    intro re' h
    simp only [inlineVars]
    exact h

theorem inlineVars_mono_le (k k' : Nat) (hk : k ≤ k') (re re' : Regex)
    (h : inlineVars b k re = .ok re') : inlineVars b k' re = .ok re' := by
  induction hk with
  | refl => exact h
  | step _ ih => exact inlineVars_mono b _ _ _ ih

theorem ok_mono_le (k k' : Nat) (hk : k ≤ k') (re : Regex) (h : Ok (inlineVars b k re)) :
    Ok (inlineVars b k' re) := by
  obtain ⟨v, hv⟩ := h
  exact ⟨v, inlineVars_mono_le b k k' hk re v hv⟩

theorem inlineVars_of_expands (re re' : Regex) (h : Expands b re re') :
    ∃ k, inlineVars b k re = .ok re' := by
  induction h with
  | builtin _ | chr _ | str _ | set _ | any | eoi => exact ⟨0, by simp only [inlineVars]⟩
  | var hf _ ih =>
    obtain ⟨k, hk⟩ := ih
    refine ⟨k + 1, ?_⟩
    simp only [inlineVars, hf]
    exact hk
  | star _ ih | plus _ ih | opt _ ih =>
    obtain ⟨k, hk⟩ := ih
    refine ⟨k, ?_⟩
    simp only [inlineVars, hk]
    rfl
  | cat _ _ ihx ihy | alt _ _ ihx ihy | diff _ _ ihx ihy =>
    obtain ⟨k1, hk1⟩ := ihx
    obtain ⟨k2, hk2⟩ := ihy
    refine ⟨max k1 k2, ?_⟩
    simp only [inlineVars, inlineVars_mono_le b k1 (max k1 k2) (Nat.le_max_left ..) _ _ hk1,
      inlineVars_mono_le b k2 (max k1 k2) (Nat.le_max_right ..) _ _ hk2]
    rfl

def Needs (k : Nat) (n : String) : Prop :=
  Ok (inlineVars b (k + 1) (.var n)) ∧ ¬ Ok (inlineVars b k (.var n))

theorem needs_of_regex (k : Nat) : ∀ re : Regex, Ok (inlineVars b (k + 1) re) → ¬ Ok (inlineVars b k re) →
    ∃ n, Needs b k n := by
  intro re
  induction re with
  | var n => intro h1 h2; exact ⟨n, h1, h2⟩
  | builtin _ | chr _ | str _ | set _ | any | eoi =>
    intro _ h2
    exact absurd ⟨_, by simp only [inlineVars]; rfl⟩ h2
  | star r ih | plus r ih | opt r ih =>
    intro h1 h2
    simp only [inlineVars, ok_map] at h1 h2
    exact ih h1 h2
  | cat x y ihx ihy | alt x y ihx ihy | diff x y ihx ihy =>
    intro h1 h2
    simp only [inlineVars, ok_map2] at h1 h2
    by_cases hx : Ok (inlineVars b k x)
    · exact ihy h1.2 (fun h => h2 ⟨hx, h⟩)
    · exact ihx h1.1 hx

theorem needs_mem (k : Nat) (n : String) (h : Needs b k n) : n ∈ boundNames b := by
  obtain ⟨⟨v, hv⟩, _⟩ := h
  simp only [inlineVars] at hv
  rw [← find?_isSome_iff]
  cases hf : Bindings.find? b n with
  | none => rw [hf] at hv; cases hv
  | some r => rfl

theorem needs_unique (k j : Nat) (n : String) (hk : Needs b k n) (hj : Needs b j n) : k = j := by
  apply Classical.byContradiction
  intro hne
  rcases Nat.lt_or_gt_of_ne hne with h | h
  · exact hj.2 (ok_mono_le b (k + 1) j h _ hk.1)
  · exact hk.2 (ok_mono_le b (j + 1) k h _ hj.1)

theorem needs_chain (k : Nat) (n : String) (h : Needs b (k + 1) n) : ∃ m, Needs b k m := by
  obtain ⟨h1, h2⟩ := h
  simp only [inlineVars] at h1 h2
  cases hf : Bindings.find? b n with
  | none => rw [hf] at h1; exact absurd h1 (not_ok_error _)
  | some r =>
    rw [hf] at h1 h2
    exact needs_of_regex b k r h1 h2

theorem needs_list : ∀ (k : Nat) (n : String), Needs b k n →
    ∃ l : List String, l.length = k + 1 ∧ l.Nodup ∧ ∀ m ∈ l, m ∈ boundNames b ∧ ∃ j, j ≤ k ∧ Needs b j m := by
  intro k
  induction k with
  | zero =>
    intro n h
    refine ⟨[n], rfl, by simp, ?_⟩
    intro m hm
    rw [List.mem_singleton] at hm
    subst hm
    exact ⟨needs_mem b 0 m h, 0, Nat.le_refl _, h⟩
  | succ k ih =>
    intro n h
    obtain ⟨m, hm⟩ := needs_chain b k n h
    obtain ⟨l, hlen, hnd, hl⟩ := ih m hm
    refine ⟨n :: l, by rw [List.length_cons, hlen], ?_, ?_⟩
    · rw [List.nodup_cons]
      refine ⟨fun hn => ?_, hnd⟩
      obtain ⟨_, j, hj, hneeds⟩ := hl n hn
      exact absurd (Nat.le_trans (Nat.le_of_eq (needs_unique b (k + 1) j n h hneeds)) hj) (Nat.not_succ_le_self k)
    · intro x hx
      rcases List.mem_cons.mp hx with rfl | hx
      · exact ⟨needs_mem b _ _ h, k + 1, Nat.le_refl _, h⟩
      · obtain ⟨h1, j, hj, h2⟩ := hl x hx
        exact ⟨h1, j, Nat.le_succ_of_le hj, h2⟩

theorem needs_le (k : Nat) (n : String) (h : Needs b k n) : k + 1 ≤ b.length := by
  obtain ⟨l, hlen, hnd, hl⟩ := needs_list b k n h
  have := List.Nodup.length_le_of_subset hnd (fun m hm => (hl m hm).1)
  rw [hlen] at this
  simpa [boundNames] using this

theorem inlineVars_down (k : Nat) (hk : b.length ≤ k) (re re' : Regex)
    (h : inlineVars b (k + 1) re = .ok re') : inlineVars b k re = .ok re' := by
  cases hc : inlineVars b k re with
  | ok v =>
    have := inlineVars_mono b k re v hc
    rw [h] at this
    cases this
    rfl
  | error e =>
    obtain ⟨n, hn⟩ := needs_of_regex b k re ⟨re', h⟩ (by rw [hc]; exact not_ok_error e)
    exact absurd (Nat.le_trans (needs_le b k n hn) hk) (Nat.not_succ_le_self k)

/-- **the fuel is irrelevant**: if substitution succeeds with some fuel, it succeeds with the fuel the
model uses -/
theorem inlineVars_any_fuel (k : Nat) (re re' : Regex) (h : inlineVars b k re = .ok re') :
    inlineVars b (b.length + 1) re = .ok re' := by
  by_cases hk : k ≤ b.length + 1
  · exact inlineVars_mono_le b k _ hk re re' h
  · have hle : b.length + 1 ≤ k := Nat.le_of_not_le hk
    clear hk
    induction hle with
    | refl => exact h
    | step hn ih => exact ih (inlineVars_down b _ (Nat.le_of_succ_le hn) re re' h)

theorem inlineVars_ok_iff_expands (re re' : Regex) :
    inlineVars b (b.length + 1) re = .ok re' ↔ Expands b re re' := by
  constructor
  · exact CompileTotal.expands_of_inlineVars b _ re re'
  · intro h
    obtain ⟨k, hk⟩ := inlineVars_of_expands b re re' h
    exact inlineVars_any_fuel b k re re' hk

theorem elaborates_iff_expands (re : Regex) :
    Elaborates b re ↔ ∃ re', Expands b re re' ∧ ClassOK re' := by
  simp only [Elaborates, inlineVars_ok_iff_expands]

end
end StaticIff

end Lexgen
