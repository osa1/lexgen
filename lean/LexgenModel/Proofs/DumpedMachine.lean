import LexgenModel.Proofs.CapstoneRun
import LexgenModel.Proofs.BisimSound
import LexgenModel.Proofs.CheckerSound
import LexgenModel.Exec.StageCheck
import LexgenModel.Proofs.NextLocations
import LexgenModel.Proofs.SwitchTable
/-!
# The machine the real macro produced computes the executable specification, once the stage checks pass

`next_eq_specNext` (`NextEqSpec.lean`) is about the machine the MODEL of the macro compiles. The correspondence check does not assume that the real macro
produces that machine: it dumps the real machine and runs `stageOK` on it (bisimulation with the model's machine from every rule-set entry,
bisimulation of the right-context automata, the well-formedness checker). This file closes the gap: for ANY machine that passes `stageOK`
— whatever its state numbering, inlining policy, transition tables — the model of the generated `next()` running on THAT machine returns
exactly what the executable reference lexer of the definition returns, on every input. What is then still trusted is only that the generated
Rust text behaves like the model interpreter on the dumped machine (compared on every trace).

Matches (`Cand`) and "in a state after a non-empty word" (`EntryExt`) are transported along `EquivFrom` (`cand_transport`, `ext_transport`).
The second needs `gotoLive` (no `goto` into a state that cannot go on) of both automata: accept lists and readable words do not tell a `goto`
into a dead state from an `Accept` transition, but the scan consumes one character more on the former before it reports an `InvalidToken`
(for `'a' > 'b'` and the machine `0 -a-> 1`, `1` accepting and dead, on `acd`: the generated code resumes at `d`, the specification at `cd`;
all other stage checks pass). `stageOK` therefore checks `gotoLive` of both automata. The entry-level facts for the dumped machine
(`entry_pack_dumped`) then come from `entryPack_of_isEntry` for the model's machine, on inputs over code points `≤ charMax` (bisimilarity says
nothing about other words; `nextLoop_eq_specLoop_on` needs no more, since the loop only looks at prefixes and suffixes of its input).
-/
namespace Lexgen
variable {σ τ ε : Type}

namespace Dumped
open NextEqSpec

def Small (w : List Nat) : Prop := ∀ c ∈ w, c ≤ charMax

theorem small_take {w : List Nat} (h : Small w) (k : Nat) : Small (w.take k) := fun c hc => h c (List.mem_of_mem_take hc)
theorem small_drop {w : List Nat} (h : Small w) (k : Nat) : Small (w.drop k) := fun c hc => h c (List.mem_of_mem_drop hc)
theorem small_nil : Small [] := fun _ hc => nomatch hc

theorem reach_eq_runCfg (d : DFA Trans) : ∀ (w : List Nat) (c : Cfg), reach d c w = runCfg d c w := by
  intro w
  induction w with
  | nil => intro c; rw [reach_nil]; rfl
  | cons x w ih =>
    intro c
    cases c with
    | st s =>
      simp only [reach, runCfg, Auto.step]
      cases h : lookupTrans (d.st s) x with
      | none => simp
      | some t => simp [ih]
    | term accs => simp [reach, runCfg, Auto.step]

theorem equiv_reach (a b : DFA Trans) (x y : Nat) (h : EquivFrom a b x y) (w : List Nat) (hw : Small w) :
    match reach a (.st x) w, reach b (.st y) w with
    | some cx, some cy => CfgAgree a b cx cy
    | none, none => True
    | _, _ => False := by
  rw [reach_eq_runCfg, reach_eq_runCfg]
  exact h w hw

theorem st_eoi_lt (d : DFA Nat) (s t : Nat) (h : (d.st s).eoi = some t) : s < d.length := by
  refine Nat.lt_of_not_le fun hle => ?_
  rw [Subset.dst_eq_empty_of_le d hle] at h
  cases h

/-- when end-of-input targets are accepting the end-of-input loop stops after at most one step -/
theorem ctxEoi_char (d : DFA Nat) (s : Nat) (h : ∀ t, (d.st s).eoi = some t → (d.st t).accepting.isEmpty = false) :
    ctxEoi d (d.length + 1) s = (!(d.st s).accepting.isEmpty || (d.st s).eoi.isSome) := by
  rw [ctxEoi]
  cases ha : (d.st s).accepting.isEmpty with
  | false => rfl
  | true =>
    cases he : (d.st s).eoi with
    | none => rfl
    | some t =>
      obtain ⟨n, hn⟩ : ∃ n, d.length = n + 1 := ⟨d.length - 1, by have := st_eoi_lt d s t he; omega⟩
      show ctxEoi d d.length t = true
      rw [hn, ctxEoi, h t he]
      rfl

theorem ctxWF_eoi (d : DFA Nat) (hwf : ctxWF d = true) (s t : Nat) (h : (d.st s).eoi = some t) :
    (d.st t).accepting.isEmpty = false := by
  rcases ScanPlain.st_mem_or_empty d s with hm | he
  · simp only [ctxWF, List.all_eq_true, Bool.and_eq_true] at hwf
    have := (hwf _ hm).2
    rw [h] at this
    simpa using this
  · rw [he] at h
    simp [DState.empty] at h

theorem ctxRun_equiv (d d' : DFA Nat) (hwf : ctxWF d' = true) :
    ∀ (w : List Nat), Small w → ∀ s s', EquivFrom d d' s s' → ctxRun d s w = ctxRun d' s' w := by
  intro w
  induction w with
  | nil =>
    intro _ s s' h
    have hacc := h.acc
    have heoi := h.eoi
    simp only [ctxRun]
    rw [ctxEoi_char d' s' (fun t ht => ctxWF_eoi d' hwf s' t ht)]
    rw [ctxEoi_char d s ?_]
    · rw [hacc]
      cases he : (d.st s).eoi <;> cases he' : (d'.st s').eoi <;> simp [he, he'] at heoi ⊢
    · intro t ht
      cases he' : (d'.st s').eoi with
      | none => simp [ht, he'] at heoi
      | some t' =>
        simp only [ht, he'] at heoi
        rw [heoi]
        exact ctxWF_eoi d' hwf s' t' he'
  | cons c rest ih =>
    intro hw s s' h
    have hacc := h.acc
    have hstep := h.step c (hw c (List.mem_cons_self ..))
    simp only [ctxRun]
    rw [hacc]
    cases ha : (d'.st s').accepting.isEmpty with
    | false => simp
    | true =>
      simp only [Bool.not_true, Bool.false_eq_true, if_false]
      cases hl : lookupTrans (d.st s) c <;> cases hl' : lookupTrans (d'.st s') c <;> simp only [hl, hl'] at hstep
      · rfl
      · exact ih (fun x hx => hw x (List.mem_cons_of_mem _ hx)) _ _ hstep


/-- one direction; the other one by symmetry -/
theorem cand_transport (cfg1 cfg2 : Config σ τ ε) (e1 e2 : Nat) (hE : EquivFrom cfg1.dfa cfg2.dfa e1 e2)
    (hctx : ∀ i w, Small w → ctxOK cfg1 i w = ctxOK cfg2 i w)
    (hEoi2 : ∀ s t, (cfg2.dfa.st s).eoi ≠ some (.goto t))
    (iter : List Nat) (hit : Small iter) (n a : Nat) (v : Bool)
    (h : Cand cfg1 e1 iter n a v) : Cand cfg2 e2 iter n a v := by
  obtain ⟨hle, c1, hr1, hsel⟩ := h
  have hag := equiv_reach cfg1.dfa cfg2.dfa e1 e2 hE (iter.take n) (small_take hit n)
  rw [hr1] at hag
  cases hr2 : reach cfg2.dfa (.st e2) (iter.take n) with
  | none => rw [hr2] at hag; exact False.elim hag
  | some c2 =>
    rw [hr2] at hag
    obtain ⟨hacc, heoi⟩ := hag
    refine ⟨hle, c2, hr2, ?_⟩
    cases v with
    | false =>
      show firstOK (fun i => ctxOK cfg2 i (iter.drop n)) (Auto.acc cfg2.dfa c2) = some a
      rw [← hacc, ← funext fun i => hctx i (iter.drop n) (small_drop hit n)]
      exact hsel
    | true =>
      obtain ⟨hn, t, accs, hc1, he1, hf⟩ := hsel
      subst hc1
      refine ⟨hn, ?_⟩
      have hx : Auto.eoi cfg1.dfa (.st t) = some (.term accs) := congrArg (Option.map Target.toCfg) he1
      rw [hx] at heoi
      cases c2 with
      | term accs2 => exact False.elim heoi
      | st t2 =>
        have hy : Auto.eoi cfg2.dfa (.st t2) = (cfg2.dfa.st t2).eoi.map Target.toCfg := rfl
        rw [hy] at heoi
        cases he2 : (cfg2.dfa.st t2).eoi with
        | none => rw [he2] at heoi; exact False.elim heoi
        | some tr =>
          rw [he2] at heoi
          cases tr with
          | goto t' => exact absurd he2 (hEoi2 t2 t')
          | accept accs2 =>
            have : accs = accs2 := heoi
            subst this
            refine ⟨t2, accs, rfl, he2, ?_⟩
            rw [← funext fun i => hctx i [] small_nil]
            exact hf

theorem reach_append (d : DFA Trans) : ∀ (w u : List Nat) (c : Cfg),
    reach d c (w ++ u) = (reach d c w).bind fun c' => reach d c' u := by
  intro w
  induction w with
  | nil => intro u c; simp [reach_nil]
  | cons x w ih =>
    intro u c
    cases c with
    | st s =>
      simp only [List.cons_append, reach]
      cases lookupTrans (d.st s) x with
      | none => rfl
      | some t => exact ih u _
    | term accs => simp [reach]

theorem lookupChar_key {α : Type} (l : List (Nat × α)) (e : Nat × α) (he : e ∈ l) : ∃ t, lookupChar l e.1 = some t := by
  induction l with
  | nil => cases he
  | cons p rest ih =>
    obtain ⟨k, t⟩ := p
    simp only [lookupChar]
    by_cases hk : k = e.1
    · exact ⟨t, by rw [if_pos hk]⟩
    · rw [if_neg hk]
      rcases List.mem_cons.mp he with rfl | h
      · exact absurd rfl hk
      · exact ih h

theorem rangeLookup_start {α : Type} (l : RangeMap α) (r : Nat × Nat × α) (hr : r ∈ l) (hle : r.1 ≤ r.2.1) :
    ∃ t, RangeMap.lookup l r.1 = some t := by
  induction l with
  | nil => cases hr
  | cons p rest ih =>
    obtain ⟨s, e, v⟩ := p
    simp only [RangeMap.lookup]
    by_cases hin : s ≤ r.1 ∧ r.1 ≤ e
    · exact ⟨v, by rw [if_pos hin]⟩
    · rw [if_neg hin]
      rcases List.mem_cons.mp hr with rfl | h
      · exact absurd ⟨Nat.le_refl _, hle⟩ hin
      · exact ih h

theorem stateLive_spec (s : DState Trans) (h : stateLive s = true) :
    s.eoi.isSome = true ∨ ∃ c, c ≤ charMax ∧ ∃ tr, lookupTrans s c = some tr := by
  simp only [stateLive, Bool.or_eq_true, List.any_eq_true, Bool.and_eq_true, decide_eq_true_eq] at h
  rcases h with ((h | h) | ⟨e, he, hle⟩) | ⟨r, hr, hle, hne⟩
  · exact Or.inl h
  · right
    refine ⟨0, Nat.zero_le _, ?_⟩
    unfold lookupTrans
    cases lookupChar s.chars 0 with
    | some t => exact ⟨t, rfl⟩
    | none =>
      cases RangeMap.lookup s.ranges 0 with
      | some t => exact ⟨t, rfl⟩
      | none =>
        cases ha : s.any with
        | none => simp [ha] at h
        | some t => exact ⟨t, rfl⟩
  · right
    refine ⟨e.1, hle, ?_⟩
    obtain ⟨t, ht⟩ := lookupChar_key s.chars e he
    exact ⟨t, by unfold lookupTrans; rw [ht]⟩
  · right
    refine ⟨r.1, hle, ?_⟩
    obtain ⟨t, ht⟩ := rangeLookup_start s.ranges r hr hne
    unfold lookupTrans
    cases lookupChar s.chars r.1 with
    | some t' => exact ⟨t', rfl⟩
    | none => exact ⟨t, by simp only [ht]⟩

/-- the state reached by a non-empty word is the target of a `goto`, hence live -/
theorem reach_st_live (d : DFA Trans) (hl : gotoLive d = true) : ∀ (w : List Nat) (s t : Nat), w ≠ [] →
    reach d (.st s) w = some (.st t) → stateLive (d.st t) = true := by
  intro w
  induction w with
  | nil => intro s t h; exact absurd rfl h
  | cons x w ih =>
    intro s t _ hr
    simp only [reach] at hr
    cases hlt : lookupTrans (d.st s) x with
    | none => simp [hlt] at hr
    | some tr =>
      simp only [hlt] at hr
      cases tr with
      | accept accs =>
        rw [toCfg_accept] at hr
        have := (reach_term d accs w _ hr).2
        cases this
      | goto t1 =>
        rw [toCfg_goto] at hr
        by_cases hw : w = []
        · subst hw
          rw [reach_nil] at hr
          cases hr
          have hmem := ScanPlain.goto_mem_gotoSuccs _ t (lookupTrans_mem_succs _ _ _ hlt)
          simp only [gotoLive, List.all_eq_true] at hl
          exact hl _ (ScanPlain.st_mem_of_gotoSucc d s t hmem) t hmem
        · exact ih t1 t hw hr

theorem ext_transport (a b : DFA Trans) (x y : Nat) (hE : EquivFrom a b x y) (hl : gotoLive a = true)
    (w : List Nat) (hw : Small w) (hne : w ≠ [])
    (h : ∃ t, reach a (.st x) w = some (.st t)) : ∃ t, reach b (.st y) w = some (.st t) := by
  obtain ⟨t, hr⟩ := h
  have hag := equiv_reach a b x y hE w hw
  rw [hr] at hag
  cases hr2 : reach b (.st y) w with
  | none => simp [hr2] at hag
  | some c2 =>
    cases c2 with
    | st t2 => exact ⟨t2, rfl⟩
    | term accs =>
      exfalso
      simp only [hr2] at hag
      rcases stateLive_spec _ (reach_st_live a hl w x t hne hr) with he | ⟨c, hc, tr, htr⟩
      · have h2 := hag.2
        cases hx : (a.st t).eoi with
        | none => simp [hx] at he
        | some tr => simp [Auto.eoi, hx] at h2
      · have hag2 := equiv_reach a b x y hE (w ++ [c]) (List.forall_mem_append.2 ⟨hw, List.forall_mem_singleton.2 hc⟩)
        rw [reach_append, reach_append, hr, hr2] at hag2
        simp [reach, htr] at hag2

/-- pigeonhole -/
theorem nodup_subset_length {α : Type} [DecidableEq α] : ∀ (l₁ l₂ : List α), l₁.Nodup → l₁ ⊆ l₂ → l₂.length ≤ l₁.length →
    l₂ ⊆ l₁ ∧ l₂.Nodup := by
  intro l₁
  induction l₁ with
  | nil =>
    intro l₂ _ _ hlen
    have : l₂ = [] := List.eq_nil_of_length_eq_zero (by simpa using hlen)
    subst this
    exact ⟨fun _ h => h, List.nodup_nil⟩
  | cons a t ih =>
    intro l₂ hnd hsub hlen
    rw [List.nodup_cons] at hnd
    have ha : a ∈ l₂ := hsub (List.mem_cons_self ..)
    have htsub : t ⊆ l₂.erase a := by
      intro x hx
      have hxa : x ≠ a := fun h => hnd.1 (h ▸ hx)
      exact (List.mem_erase_of_ne hxa).2 (hsub (List.mem_cons_of_mem _ hx))
    have hlen2 : (l₂.erase a).length = l₂.length - 1 := by rw [List.length_erase]; simp [ha]
    have hpos : 1 ≤ l₂.length := List.length_pos_of_mem ha
    obtain ⟨h1, h2⟩ := ih (l₂.erase a) hnd.2 htsub (by simp only [List.length_cons] at hlen; omega)
    have hperm : l₂.Perm (a :: l₂.erase a) := List.perm_cons_erase ha
    constructor
    · intro x hx
      by_cases hxa : x = a
      · subst hxa; exact List.mem_cons_self ..
      · exact List.mem_cons_of_mem _ (h1 ((List.mem_erase_of_ne hxa).2 hx))
    · rw [hperm.nodup_iff, List.nodup_cons]
      exact ⟨fun hmem => hnd.1 (h1 hmem), h2⟩

theorem mapM_option_spec {α β : Type} (f : α → Option β) : ∀ (l : List α) (res : List β), l.mapM f = some res →
    res.length = l.length ∧ ∀ x ∈ l, ∃ y, f x = some y ∧ y ∈ res := by
  intro l
  induction l with
  | nil =>
    intro res h
    cases h
    exact ⟨rfl, fun x hx => nomatch hx⟩
  | cons a t ih =>
    intro res h
    rw [List.mapM_cons] at h
    obtain ⟨b, hfa, h⟩ := Option.bind_eq_some_iff.mp h
    obtain ⟨bs, ht, h⟩ := Option.bind_eq_some_iff.mp h
    cases h
    obtain ⟨h1, h2⟩ := ih bs ht
    refine ⟨congrArg (· + 1) h1, fun x hx => ?_⟩
    rcases List.mem_cons.mp hx with rfl | hx
    · exact ⟨b, hfa, List.mem_cons_self ..⟩
    · obtain ⟨y, hy1, hy2⟩ := h2 x hx
      exact ⟨y, hy1, List.mem_cons_of_mem _ hy2⟩

theorem entryPairs_spec (a b : List (String × Nat)) (pairs : List (Nat × Nat)) (h : entryPairs a b = some pairs) :
    a.length = b.length ∧ pairs.length = a.length ∧
    ∀ name i, (name, i) ∈ a → ∃ eD, (name, eD) ∈ b ∧ (i, eD) ∈ pairs := by
  unfold entryPairs at h
  by_cases hl : a.length ≠ b.length
  · rw [if_pos hl] at h; cases h
  · rw [if_neg hl] at h
    obtain ⟨h1, h2⟩ := mapM_option_spec _ a pairs h
    refine ⟨Decidable.of_not_not hl, h1, fun name i hm => ?_⟩
    obtain ⟨y, hy, hmem⟩ := h2 (name, i) hm
    obtain ⟨⟨en, eD⟩, hf, rfl⟩ := Option.map_eq_some_iff.mp hy
    have hn : en = name := of_decide_eq_true (List.find?_some (p := fun x : String × Nat => decide (x.1 = name)) hf)
    exact ⟨eD, hn ▸ List.mem_of_find?_eq_some hf, hmem⟩

theorem entryPairs_names (a b : List (String × Nat)) (pairs : List (Nat × Nat)) (h : entryPairs a b = some pairs)
    (hnd : (a.map (·.1)).Nodup) :
    (b.map (·.1)).Nodup ∧ ∀ name eD, (name, eD) ∈ b → ∃ eM, (name, eM) ∈ a ∧ (eM, eD) ∈ pairs := by
  obtain ⟨hlen, _, hall⟩ := entryPairs_spec a b pairs h
  have hsub : a.map (·.1) ⊆ b.map (·.1) := by
    intro n hn
    obtain ⟨p, hp, rfl⟩ := List.mem_map.mp hn
    obtain ⟨eD, he, _⟩ := hall p.1 p.2 hp
    exact List.mem_map.mpr ⟨(p.1, eD), he, rfl⟩
  obtain ⟨hsup, hndb⟩ := nodup_subset_length _ _ hnd hsub (by rw [List.length_map, List.length_map, hlen]; exact Nat.le_refl _)
  refine ⟨hndb, fun name eD hm => ?_⟩
  obtain ⟨⟨pn, eM⟩, hp, hpn⟩ := List.mem_map.mp (hsup (List.mem_map.mpr ⟨(name, eD), hm, rfl⟩))
  cases hpn
  obtain ⟨eD', he, hpair⟩ := hall name eM hp
  cases names_unique hndb he hm
  exact ⟨eM, hp, hpair⟩


theorem stageOK_unpack (c : Compiled) (dfa : DFA Trans) (entries : List (String × Nat)) (ctxs : List (DFA Nat)) (inl : List Nat)
    (hs : stageOK c dfa entries ctxs inl = true) :
    ∃ pairs, entryPairs c.entries entries = some pairs ∧
      (∀ x y, (x, y) ∈ (if pairs.isEmpty then [(0, 0)] else pairs) → EquivFrom c.dfa dfa x y) ∧
      c.ctxs.length = ctxs.length ∧
      (∀ i, i < c.ctxs.length → EquivFrom (c.ctxs.getD i []) (ctxs.getD i []) 0 0 ∧ ctxWF (ctxs.getD i []) = true) ∧
      (machineWF dfa entries ctxs.length inl).all = true ∧ gotoLive c.dfa = true ∧ gotoLive dfa = true := by
  unfold stageOK at hs
  simp only [Bool.and_eq_true, decide_eq_true_eq] at hs
  obtain ⟨⟨⟨⟨⟨h1, h2⟩, h3⟩, h4⟩, h5⟩, h6⟩ := hs
  cases hp : entryPairs c.entries entries with
  | none => simp [hp] at h1
  | some pairs =>
    simp only [hp] at h1
    refine ⟨pairs, rfl, ?_, h2, ?_, h4, h5, h6⟩
    · intro x y hxy
      exact bisim_sound c.dfa dfa _ h1 x y hxy
    · intro i hi
      have := (List.all_eq_true.mp h3) i (List.mem_range.mpr hi)
      simp only [Bool.and_eq_true] at this
      exact ⟨bisim_sound _ _ _ this.1 0 0 (List.mem_singleton.mpr rfl), this.2⟩

theorem ctxOK_eq (cfg1 cfg2 : Config σ τ ε) (hlen : cfg1.ctxs.length = cfg2.ctxs.length)
    (hctx : ∀ i, i < cfg1.ctxs.length → EquivFrom (cfg1.ctxs.getD i []) (cfg2.ctxs.getD i []) 0 0 ∧ ctxWF (cfg2.ctxs.getD i []) = true)
    (i : Nat) (w : List Nat) (hw : Small w) : ctxOK cfg1 i w = ctxOK cfg2 i w := by
  unfold ctxOK
  by_cases hi : i < cfg1.ctxs.length
  · obtain ⟨h1, h2⟩ := hctx i hi
    exact ctxRun_equiv _ _ h2 w hw 0 0 h1
  · have h1 : cfg1.ctxs.getD i [] = [] := by simp [List.getD, Nat.le_of_not_lt hi]
    have h2 : cfg2.ctxs.getD i [] = [] := by simp [List.getD, ← hlen, Nat.le_of_not_lt hi]
    rw [h1, h2]

theorem pack_transfer (items : LexerDef) (ctxAt : Nat → Regex) (cfgM cfgD : Config σ τ ε)
    (hmM : MachineOK cfgM) (hmD : MachineOK cfgD) (eM eD : Nat)
    (hpack : EntryPack items ctxAt cfgM eM)
    (hE : EquivFrom cfgM.dfa cfgD.dfa eM eD)
    (hlen : cfgM.ctxs.length = cfgD.ctxs.length)
    (hctx : ∀ i, i < cfgM.ctxs.length → EquivFrom (cfgM.ctxs.getD i []) (cfgD.ctxs.getD i []) 0 0 ∧ ctxWF (cfgD.ctxs.getD i []) = true)
    (hlM : gotoLive cfgM.dfa = true) (hlD : gotoLive cfgD.dfa = true)
    (hact : activeSet items cfgM (renumber cfgM.inl eM) = activeSet items cfgD (renumber cfgD.inl eD)) :
    EntryPackOn Small items ctxAt cfgD eD := by
  obtain ⟨x, rules, hactM, hcore, hiff, hExt, hnep⟩ := hpack
  have hE' := hE.symm
  have hc := ctxOK_eq cfgM cfgD hlen hctx
  refine ⟨x, rules, hact ▸ hactM, hcore, ?_, ?_, hnep⟩
  · intro iter hsm n a v
    rw [← hiff iter n a v]
    constructor
    · exact cand_transport cfgD cfgM eD eM hE' (fun i w hw => (hc i w hw).symm) hmM.eoiAccept iter hsm n a v
    · exact cand_transport cfgM cfgD eM eD hE hc hmD.eoiAccept iter hsm n a v
  · intro w hsm hne
    rw [← hExt w hne]
    constructor
    · exact ext_transport cfgD.dfa cfgM.dfa eD eM hE' hlD w hsm hne
    · exact ext_transport cfgM.dfa cfgD.dfa eM eD hE hlM w hsm hne

theorem entry_pack_dumped (items : LexerDef) (c : Compiled) (h : compileLexer items = .ok c)
    (hok : DefOK items) (hne : DefNE items) (cfg : Config σ τ ε)
    (hs : stageOK c cfg.dfa cfg.entries cfg.ctxs cfg.inl = true) (hmD : MachineOK cfg)
    (eD : Nat) (heD : IsEntry cfg eD) :
    EntryPackOn Small items (specCtxAt items) cfg eD := by
  obtain ⟨pairs, hpairs, hbis, hlen, hctx, hwf, hlM, hlD⟩ := stageOK_unpack c _ _ _ _ hs
  have hmM := compileLexer_machineOK items c h hok cfg.actions cfg.width cfg.input
  have hpackM := entryPack_of_isEntry items c h hok hne (specCtxAt items) (specCtxAt_numbering items)
    cfg.actions cfg.width cfg.input
  obtain ⟨hlenE, hplen, hpall⟩ := entryPairs_spec c.entries cfg.entries pairs hpairs
  cases hrs : hasRuleSets items with
  | false =>
    have hent : c.entries = [] := (compileLexer_unnamed_core items c h hrs).2.1
    rw [hent] at hlenE hplen
    have hentD : cfg.entries = [] := List.eq_nil_of_length_eq_zero hlenE.symm
    have hpnil : pairs = [] := List.eq_nil_of_length_eq_zero hplen
    have he0 : eD = 0 := by
      rcases heD with rfl | ⟨name, hn⟩
      · rfl
      · rw [hentD] at hn
        cases hn
    subst he0
    have hE : EquivFrom c.dfa cfg.dfa 0 0 := by
      apply hbis 0 0
      rw [hpnil]
      exact List.mem_singleton.mpr rfl
    refine pack_transfer items (specCtxAt items) (c.config cfg.actions cfg.width cfg.input) cfg hmM hmD 0 0
      (hpackM 0 (Or.inl rfl)) hE hlen hctx hlM hlD ?_
    rw [NextProtocol.renumber_zero, NextProtocol.renumber_zero, activeSet_unnamed items _ hrs,
      activeSet_unnamed items _ hrs]
  | true =>
    obtain ⟨hndM, hinit, _⟩ := compile_entries_named items c h hrs
    obtain ⟨hndD, hnames⟩ := entryPairs_names c.entries cfg.entries pairs hpairs hndM
    have hpne : pairs.isEmpty = false := by
      cases pairs with
      | nil =>
        rw [List.eq_nil_of_length_eq_zero hplen.symm] at hinit
        cases hinit
      | cons p t => rfl
    -- the entry state has a name: state 0 is `Init` in a machine with entries
    obtain ⟨name0, hmem0⟩ : ∃ name, (name, eD) ∈ cfg.entries := by
      rcases heD with rfl | hn
      · rcases (state0_of_machineWF hwf).2 with hnil | hin
        · rw [hnil] at hlenE
          rw [List.eq_nil_of_length_eq_zero hlenE] at hinit
          cases hinit
        · exact ⟨"Init", hin⟩
      · exact hn
    -- both machines read the same name back from the number of their entry state
    obtain ⟨nm, hnmD, hactD⟩ := activeSet_entry_num items cfg hmD hrs hmem0
    obtain ⟨eM, hnmM, hpair⟩ := hnames nm eD hnmD
    have hE : EquivFrom c.dfa cfg.dfa eM eD := by
      apply hbis eM eD
      rw [hpne]
      exact hpair
    obtain ⟨nm', hnmM', hactM⟩ :=
      activeSet_entry_num items (c.config cfg.actions cfg.width cfg.input) hmM hrs hnmM
    have hsame : nm' = nm := RunCongr.entries_states_inj items c h hrs nm' nm eM hnmM' hnmM
    exact pack_transfer items (specCtxAt items) (c.config cfg.actions cfg.width cfg.input) cfg hmM hmD eM eD
      (hpackM eM (Or.inr ⟨nm, hnmM⟩)) hE hlen hctx hlM hlD (hactM.trans (hsame ▸ hactD.symm))

theorem machineOK_of_stageOK (c : Compiled) (cfg : Config σ τ ε)
    (hs : stageOK c cfg.dfa cfg.entries cfg.ctxs cfg.inl = true) : MachineOK cfg := by
  obtain ⟨_, _, _, _, _, hwf, _, _⟩ := stageOK_unpack c _ _ _ _ hs
  exact machineOK_of_checker cfg cfg.ctxs.length hwf

/-- `hr` comes before `hs` so that at a call with a literal configuration the configuration is read off `Ready`; recovering it
from its four projections in `stageOK` is very slow. -/
theorem next_eq_specNextFull (items : LexerDef) (c : Compiled) (h : compileLexer items = .ok c)
    (hok : DefOK items) (hne : DefNE items) (cfg : Config σ τ ε) (st : LState σ) (hr : Ready cfg st)
    (hs : stageOK c cfg.dfa cfg.entries cfg.ctxs cfg.inl = true)
    (hch : Small st.iter) : next cfg st = specNextFull items cfg st := by
  have hm := machineOK_of_stageOK c cfg hs
  unfold next specNextFull
  rw [specNext_eq]
  exact nextLoop_eq_specLoop_on Small (fun _ k h => small_take h k) (fun _ k h => small_drop h k) items (specCtxAt items)
    cfg hm (entry_pack_dumped items c h hok hne cfg hs hm) _ st hr hch (Nat.le_refl _)

theorem boundary_initState (width : Nat → Nat) (user : σ) (chars : List Nat) :
    Boundary width chars (initState user chars) :=
  ⟨rfl, 0, 0, Nat.le_refl _, Nat.zero_le _, rfl, rfl, rfl⟩

theorem boundary_small (width : Nat → Nat) (chars : List Nat) (hch : Small chars) (st : LState σ)
    (hb : Boundary width chars st) : Small st.iter := by
  obtain ⟨_, start, pos, _, _, hit, _, _⟩ := hb
  rw [hit]
  exact small_drop hch pos

theorem runN_eq_specRunN_dumped (items : LexerDef) (c : Compiled) (h : compileLexer items = .ok c)
    (hok : DefOK items) (hne : DefNE items) (cfg : Config σ τ ε) (chars : List Nat) (hch : Small chars)
    (n : Nat) (st : LState σ) (hr : Ready cfg st) (hb : Boundary cfg.width chars st)
    (hs : stageOK c cfg.dfa cfg.entries cfg.ctxs cfg.inl = true) :
    runN cfg n st = specRunN items cfg n st := by
  have hm := machineOK_of_stageOK c cfg hs
  exact (runN_isRun cfg).congr (specRunN_run items cfg) (fun st => Ready cfg st ∧ Boundary cfg.width chars st)
    (fun st hi => ⟨next_eq_specNextFull items c h hok hne cfg st hi.1 hs (boundary_small _ chars hch st hi.2),
      fun item st' hn => ⟨next_ready cfg hm st hi.1 item st' hn, (next_boundary cfg hm chars st hi.2 item st' hn).1⟩⟩)
    n st ⟨hr, hb⟩

end Dumped

/-- For ANY machine (automaton, entry map, right-context automata, inlined states) that passes `stageOK` against the
machine the model compiles from a well-formed definition — in particular the one dumped from the real macro — a call of
the model of the generated `next()` on THAT machine, from a lexeme start with only scalar values left to read, returns what
the executable reference lexer of the definition returns. -/
theorem dumped_machine_is_specification (items : LexerDef) (c : Compiled) (h : compileLexer items = .ok c)
    (hok : DefOK items) (hne : DefNE items)
    (dfa : DFA Trans) (entries : List (String × Nat)) (ctxs : List (DFA Nat)) (inl : List Nat)
    (hs : stageOK c dfa entries ctxs inl = true)
    (actions : Nat → Action σ τ ε) (width : Nat → Nat) (input : Option (List Nat)) (st : LState σ)
    (hr : Ready { dfa := dfa, ctxs := ctxs, entries := entries, inl := inl, actions := actions, width := width, input := input } st)
    (hch : ∀ ch ∈ st.iter, ch ≤ charMax) :
    next { dfa := dfa, ctxs := ctxs, entries := entries, inl := inl, actions := actions, width := width, input := input } st =
      specNextFull items { dfa := dfa, ctxs := ctxs, entries := entries, inl := inl, actions := actions, width := width, input := input } st :=
  Dumped.next_eq_specNextFull items c h hok hne _ st hr hs hch

/-- whole runs from a fresh lexer over scalar values -/
theorem dumped_machine_runs_are_specification (items : LexerDef) (c : Compiled) (h : compileLexer items = .ok c)
    (hok : DefOK items) (hne : DefNE items)
    (dfa : DFA Trans) (entries : List (String × Nat)) (ctxs : List (DFA Nat)) (inl : List Nat)
    (hs : stageOK c dfa entries ctxs inl = true)
    (actions : Nat → Action σ τ ε) (width : Nat → Nat) (input : Option (List Nat)) (user : σ) (chars : List Nat)
    (hch : ∀ ch ∈ chars, ch ≤ charMax) (n : Nat) :
    runN { dfa := dfa, ctxs := ctxs, entries := entries, inl := inl, actions := actions, width := width, input := input } n (initState user chars) =
      specRunN items { dfa := dfa, ctxs := ctxs, entries := entries, inl := inl, actions := actions, width := width, input := input } n (initState user chars) :=
  Dumped.runN_eq_specRunN_dumped items c h hok hne _ chars hch n _ (initState_ready _ user chars)
    (Dumped.boundary_initState width user chars) hs

end Lexgen
