import LexgenModel.Model.Dfa
/-!
# S5 — `update_backtracks`: the flags it computes are locally closed, sound along paths, and the
work-list loop terminates within `backtrackFuel`.
-/
namespace Lexgen
namespace Backtrack

/-- `TargetsInRange` of Spec/Compile.lean, which callers pass for it -/
def TargetsOK (d : DFA Nat) : Prop := ∀ s, s < d.length → ∀ t ∈ DFA.succs (d.st s), t < d.length

def accOf (d : DFA Nat) (s : Nat) : Bool := !(d.st s).accepting.isEmpty

def Covered (wl : List (Nat × Bool)) (vis : List (Option Bool)) (t : Nat) (need : Bool) : Prop :=
  (∃ b, vis.getD t none = some b ∧ (need = true → b = true)) ∨ (∃ b, (t, b) ∈ wl ∧ (need = true → b = true))

/-- The invariant of the work-list loop of `update_backtracks` (`vis s = some b`: `s` was visited with flag `b`): what a
visited state demands of its successors, the flag it was visited with or `true` if it accepts, is visited or still on the work
list (`closed`), and so is every initial state (`initial`). With an empty work list this makes the visited flags closed along
transitions and every state reachable from an initial one visited. -/
structure Inv (d : DFA Nat) (wl : List (Nat × Bool)) (vis : List (Option Bool)) : Prop where
  len : vis.length = d.length
  wlRange : ∀ p ∈ wl, p.1 < d.length
  closed : ∀ s b, vis.getD s none = some b → ∀ t ∈ DFA.succs (d.st s), Covered wl vis t (b || accOf d s)
  initial : ∀ i, i < d.length → (d.st i).initial = true → Covered wl vis i false

theorem getD_set_eq (vis : List (Option Bool)) (s : Nat) (x : Option Bool) (h : s < vis.length) :
    (vis.set s x).getD s none = x := by
  simp [List.getD, h]

theorem getD_set_ne (vis : List (Option Bool)) (s t : Nat) (x : Option Bool) (h : s ≠ t) :
    (vis.set s x).getD t none = vis.getD t none := by
  simp [List.getD, h]

theorem getD_some_lt (vis : List (Option Bool)) (s : Nat) (b : Bool) (h : vis.getD s none = some b) : s < vis.length := by
  by_cases hlt : s < vis.length
  · exact hlt
  · simp [List.getD, List.getElem?_eq_none (Nat.le_of_not_lt hlt)] at h

theorem covered_step (wl : List (Nat × Bool)) (vis : List (Option Bool)) (s : Nat) (bt : Bool) (nb : Bool)
    (pushed : List (Nat × Bool)) (hs : s < vis.length)
    (hmono : ∀ b, vis.getD s none = some b → (b = true → nb = true))
    (hbt : bt = true → nb = true)
    (t : Nat) (need : Bool) (h : Covered ((s, bt) :: wl) vis t need) :
    Covered (pushed ++ wl) (vis.set s (some nb)) t need := by
  rcases h with ⟨b, hb, hn⟩ | ⟨b, hb, hn⟩
  · by_cases hts : s = t
    · subst hts
      exact Or.inl ⟨nb, getD_set_eq vis s _ hs, fun hneed => hmono b hb (hn hneed)⟩
    · exact Or.inl ⟨b, by rw [getD_set_ne vis s t _ hts]; exact hb, hn⟩
  · rcases List.mem_cons.mp hb with heq | hmem
    · cases heq
      exact Or.inl ⟨nb, getD_set_eq vis s _ hs, fun hneed => hbt (hn hneed)⟩
    · exact Or.inr ⟨b, List.mem_append_right _ hmem, hn⟩

theorem covered_skip (wl : List (Nat × Bool)) (vis : List (Option Bool)) (s : Nat) (bt v : Bool)
    (hv : vis.getD s none = some v) (hskip : (v || !bt) = true)
    (t : Nat) (need : Bool) (h : Covered ((s, bt) :: wl) vis t need) : Covered wl vis t need := by
  rcases h with h | ⟨b, hb, hn⟩
  · exact Or.inl h
  · rcases List.mem_cons.mp hb with heq | hmem
    · cases heq
      refine Or.inl ⟨v, hv, fun hneed => ?_⟩
      have := hn hneed
      subst this
      simpa using hskip
    · exact Or.inr ⟨b, hmem, hn⟩

theorem inv_skip (d : DFA Nat) (wl : List (Nat × Bool)) (vis : List (Option Bool)) (s : Nat) (bt v : Bool)
    (hinv : Inv d ((s, bt) :: wl) vis) (hv : vis.getD s none = some v) (hskip : (v || !bt) = true) :
    Inv d wl vis where
  len := hinv.len
  wlRange := fun p hp => hinv.wlRange p (List.mem_cons_of_mem _ hp)
  closed := fun s' b hb t ht => covered_skip wl vis s bt v hv hskip t _ (hinv.closed s' b hb t ht)
  initial := fun i hi hini => covered_skip wl vis s bt v hv hskip i _ (hinv.initial i hi hini)

theorem inv_expand (d : DFA Nat) (hT : TargetsOK d) (wl : List (Nat × Bool)) (vis : List (Option Bool)) (s : Nat) (bt nb : Bool)
    (hinv : Inv d ((s, bt) :: wl) vis)
    (hmono : ∀ b, vis.getD s none = some b → (b = true → nb = true))
    (hbt : bt = true → nb = true) :
    Inv d (((DFA.succs (d.st s)).map fun t => (t, nb || accOf d s)).reverse ++ wl) (vis.set s (some nb)) := by
  have hs : s < d.length := hinv.wlRange (s, bt) (List.mem_cons_self ..)
  have hsv : s < vis.length := by rw [hinv.len]; exact hs
  refine ⟨by rw [List.length_set]; exact hinv.len, ?_, ?_, ?_⟩
  · intro p hp
    rcases List.mem_append.mp hp with h | h
    · have h' := List.mem_reverse.mp h
      obtain ⟨t, ht, rfl⟩ := List.mem_map.mp h'
      exact hT s hs t ht
    · exact hinv.wlRange p (List.mem_cons_of_mem _ h)
  · intro s' b hb t ht
    by_cases hss : s = s'
    · subst hss
      rw [getD_set_eq vis s _ hsv] at hb
      cases hb
      refine Or.inr ⟨nb || accOf d s, List.mem_append_left _ (List.mem_reverse.mpr (List.mem_map.mpr ⟨t, ht, rfl⟩)), fun h => h⟩
    · rw [getD_set_ne vis s s' _ hss] at hb
      exact covered_step wl vis s bt nb _ hsv hmono hbt t _ (hinv.closed s' b hb t ht)
  · intro i hi hini
    exact covered_step wl vis s bt nb _ hsv hmono hbt i _ (hinv.initial i hi hini)

theorem initialWork_inv (d : DFA Nat) : Inv d (initialWork d).reverse (List.replicate d.length none) := by
  refine ⟨by simp, ?_, ?_, ?_⟩
  · intro p hp
    have hp' := List.mem_reverse.mp hp
    simp only [initialWork, List.mem_map, List.mem_filter, List.mem_range] at hp'
    obtain ⟨i, ⟨hi, _⟩, rfl⟩ := hp'
    exact hi
  · intro s b hb
    exfalso
    by_cases hs : s < d.length
    · simp [List.getD, hs] at hb
    · simp [List.getD, hs] at hb
  · intro i hi hini
    refine Or.inr ⟨false, List.mem_reverse.mpr ?_, fun h => by cases h⟩
    simp only [initialWork, List.mem_map, List.mem_filter, List.mem_range]
    exact ⟨i, ⟨hi, hini⟩, rfl⟩

/-- rank of a visited entry: how many more times the state can be expanded -/
def rank : Option Bool → Nat
  | none => 2
  | some false => 1
  | some true => 0

/-- potential: work-list length + Σ_s rank(vis[s]) · outdegree(s) -/
def rankSum : List (DState Nat) → List (Option Bool) → Nat
  | s :: ss, v :: vs => rank v * (DFA.succs s).length + rankSum ss vs
  | _, _ => 0

/-- Strengthening the visit of `s` lowers the potential by at least the out-degree of `s`, which
pays for the successors pushed. -/
theorem rankSum_set : ∀ (d : List (DState Nat)) (vis : List (Option Bool)) (s : Nat) (x : Option Bool),
    vis.length = d.length → s < d.length → rank x < rank (vis.getD s none) →
    rankSum d (vis.set s x) + (DFA.succs (DFA.st d s)).length ≤ rankSum d vis := by
  intro d
  induction d with
  | nil => intro vis s x _ hs; cases hs
  | cons a d ih =>
    intro vis s x hl hs hlt
    cases vis with
    | nil => cases hl
    | cons v vis =>
      cases s with
      | zero =>
        have h := Nat.mul_le_mul_right (DFA.succs a).length (show rank x + 1 ≤ rank v from hlt)
        rw [Nat.succ_mul] at h
        show rank x * (DFA.succs a).length + rankSum d vis + (DFA.succs a).length
          ≤ rank v * (DFA.succs a).length + rankSum d vis
        rw [Nat.add_right_comm]
        exact Nat.add_le_add_right h _
      | succ s =>
        show rank v * (DFA.succs a).length + rankSum d (vis.set s x) + (DFA.succs (DFA.st d s)).length
          ≤ rank v * (DFA.succs a).length + rankSum d vis
        rw [Nat.add_assoc]
        exact Nat.add_le_add_left (ih vis s x (Nat.succ.inj hl) (Nat.lt_of_succ_lt_succ hs) hlt) _

theorem rankSum_replicate (d : DFA Nat) : ∀ a : Nat,
    2 * d.foldl (fun acc s => acc + (DFA.succs s).length) a
      = 2 * a + rankSum d (List.replicate d.length none) := by
  induction d with
  | nil => intro a; simp [rankSum]
  | cons s d ih =>
    intro a
    simp only [List.foldl_cons, List.length_cons, List.replicate_succ, rankSum, rank]
    rw [ih, Nat.mul_add, Nat.add_assoc]

theorem rankSum_initial (d : DFA Nat) : rankSum d (List.replicate d.length none) = 2 * edgeCount d := by
  rw [edgeCount, rankSum_replicate d 0, Nat.mul_zero, Nat.zero_add]

theorem initialWork_length (d : DFA Nat) : (initialWork d).reverse.length ≤ d.length := by
  simp only [initialWork, List.length_reverse, List.length_map]
  have h := List.length_filter_le (fun i => (d.st i).initial) (List.range d.length)
  simpa using h

theorem potential_expand (d : DFA Nat) (wl : List (Nat × Bool)) (vis : List (Option Bool)) (s : Nat) (nb b : Bool)
    (hl : vis.length = d.length) (hs : s < d.length) (hlt : rank (some nb) < rank (vis.getD s none)) :
    (((DFA.succs (d.st s)).map fun t => (t, b)).reverse ++ wl).length + rankSum d (vis.set s (some nb))
      ≤ wl.length + rankSum d vis := by
  rw [List.length_append, List.length_reverse, List.length_map, Nat.add_right_comm,
    Nat.add_comm _ (rankSum _ _), Nat.add_comm wl.length]
  exact Nat.add_le_add_right (rankSum_set d vis s (some nb) hl hs hlt) _

theorem not_skip {v bt : Bool} (h : ¬(v || !bt) = true) : bt = true ∧ v = false := by
  revert h
  cases v <;> cases bt <;> decide

theorem loop_step (d : DFA Nat) (hT : TargetsOK d) (fuel s : Nat) (bt : Bool) (wl : List (Nat × Bool))
    (vis : List (Option Bool)) (hinv : Inv d ((s, bt) :: wl) vis) :
    ∃ wl' vis', backtrackLoop d (fuel + 1) ((s, bt) :: wl) vis = backtrackLoop d fuel wl' vis' ∧
      Inv d wl' vis' ∧ wl'.length + rankSum d vis' ≤ wl.length + rankSum d vis := by
  have hs : s < d.length := hinv.wlRange (s, bt) (List.mem_cons_self ..)
  simp only [backtrackLoop]
  cases hv : vis.getD s none with
  | none =>
    refine ⟨_, _, rfl, inv_expand d hT wl vis s bt bt hinv ?_ id, ?_⟩
    · intro b hb
      rw [hv] at hb
      cases hb
    · exact potential_expand d wl vis s bt _ hinv.len hs (by rw [hv]; cases bt <;> decide)
  | some v =>
    dsimp only
    by_cases hskip : (v || !bt) = true
    · rw [if_pos hskip]
      exact ⟨wl, vis, rfl, inv_skip d wl vis s bt v hinv hv hskip, Nat.le_refl _⟩
    · rw [if_neg hskip]
      obtain ⟨rfl, rfl⟩ := not_skip hskip
      exact ⟨_, _, rfl, inv_expand d hT wl vis s true true hinv (fun _ _ _ => rfl) id,
        potential_expand d wl vis s true _ hinv.len hs (by rw [hv]; decide)⟩

theorem loop_spec (d : DFA Nat) (hT : TargetsOK d) :
    ∀ (fuel : Nat) (wl : List (Nat × Bool)) (vis : List (Option Bool)),
      Inv d wl vis → wl.length + rankSum d vis < fuel →
      ∃ vis', backtrackLoop d fuel wl vis = some vis' ∧ Inv d [] vis'
  | 0, _, _, _, h => absurd h (Nat.not_lt_zero _)
  | _ + 1, [], vis, hinv, _ => ⟨vis, rfl, hinv⟩
  | fuel + 1, (s, bt) :: wl, vis, hinv, h => by
    obtain ⟨wl', vis', heq, hinv', hle⟩ := loop_step d hT fuel s bt wl vis hinv
    rw [heq]
    refine loop_spec d hT fuel wl' vis' hinv' (Nat.lt_of_le_of_lt hle (Nat.lt_of_succ_lt_succ ?_))
    rw [Nat.succ_eq_add_one, Nat.add_right_comm]
    exact h

theorem backtrack_loop (d : DFA Nat) (hT : TargetsOK d) :
    ∃ vis, backtrackLoop d (backtrackFuel d) (initialWork d).reverse (List.replicate d.length none) = some vis ∧
      Inv d [] vis := by
  apply loop_spec d hT _ _ _ (initialWork_inv d)
  rw [rankSum_initial, Nat.add_comm]
  exact Nat.lt_succ_of_le (Nat.add_le_add_left (initialWork_length d) _)

theorem backtrack_terminates (d : DFA Nat) (hT : TargetsOK d) :
    ∃ vis, backtrackLoop d (backtrackFuel d) (initialWork d).reverse (List.replicate d.length none) = some vis :=
  let ⟨vis, h, _⟩ := backtrack_loop d hT
  ⟨vis, h⟩

theorem st_zipWith (d : DFA Nat) (vis : List (Option Bool)) (hl : vis.length = d.length) (s : Nat) :
    DFA.st (d.zipWith (fun st v => { st with backtrack := v.getD false }) vis) s
      = { d.st s with backtrack := (vis.getD s none).getD false } := by
  unfold DFA.st
  rw [List.getD_eq_getElem?_getD, List.getD_eq_getElem?_getD, List.getD_eq_getElem?_getD, List.getElem?_zipWith]
  cases hd : d[s]? with
  | none =>
    rw [List.getElem?_eq_none_iff] at hd
    rw [List.getElem?_eq_none (Nat.le_trans (Nat.le_of_eq hl) hd)]
    rfl
  | some x =>
    obtain ⟨hlt, _⟩ := List.getElem?_eq_some_iff.mp hd
    rw [List.getElem?_eq_getElem (Nat.lt_of_lt_of_eq hlt hl.symm)]
    rfl

theorem updateBacktracks_some (d d' : DFA Nat) (hT : TargetsOK d) (h : updateBacktracks d = some d') :
    ∃ vis, Inv d [] vis ∧ vis.all Option.isSome = true ∧
      d' = d.zipWith (fun st v => { st with backtrack := v.getD false }) vis := by
  obtain ⟨vis, hloop, hinv⟩ := backtrack_loop d hT
  simp only [updateBacktracks, hloop] at h
  by_cases hall : vis.all Option.isSome = true
  · rw [if_pos hall] at h
    exact ⟨vis, hinv, hall, (Option.some.inj h).symm⟩
  · rw [if_neg hall] at h
    cases h

theorem covered_nil (vis : List (Option Bool)) (t : Nat) (need : Bool) (h : Covered [] vis t need) :
    ∃ b, vis.getD t none = some b ∧ (need = true → b = true) := by
  rcases h with h | ⟨b, hb, _⟩
  · exact h
  · cases hb

theorem all_isSome_getD (vis : List (Option Bool)) (hall : vis.all Option.isSome = true) (s : Nat)
    (hs : s < vis.length) : ∃ b, vis.getD s none = some b := by
  have h := List.all_eq_true.mp hall vis[s] (List.getElem_mem hs)
  cases hv : vis[s] with
  | none => rw [hv] at h; cases h
  | some b => exact ⟨b, by simp [List.getD, hs, hv]⟩

theorem backtrack_closed (d d' : DFA Nat) (hT : TargetsOK d) (h : updateBacktracks d = some d') :
    d'.length = d.length ∧
    (∀ s, DFA.succs (d'.st s) = DFA.succs (d.st s) ∧ (d'.st s).accepting = (d.st s).accepting ∧ (d'.st s).initial = (d.st s).initial) ∧
    (∀ s, s < d.length → ∀ t ∈ DFA.succs (d.st s),
        ((d'.st s).backtrack || accOf d s) = true → (d'.st t).backtrack = true) := by
  obtain ⟨vis, hinv, hall, rfl⟩ := updateBacktracks_some d d' hT h
  have hl := hinv.len
  refine ⟨by rw [List.length_zipWith, hl, Nat.min_self], ?_, ?_⟩
  · intro s
    rw [st_zipWith d vis hl s]
    exact ⟨rfl, rfl, rfl⟩
  · intro s hs t ht hb
    rw [st_zipWith d vis hl s] at hb
    rw [st_zipWith d vis hl t]
    obtain ⟨b, hvb⟩ := all_isSome_getD vis hall s (Nat.lt_of_lt_of_eq hs hl.symm)
    obtain ⟨b', hvb', himp⟩ := covered_nil vis t _ (hinv.closed s b hvb t ht)
    simp only [hvb, Option.getD_some] at hb
    simp only [hvb', Option.getD_some]
    exact himp hb

inductive Path (d : DFA Nat) : Nat → Nat → Prop
  | refl (s : Nat) : Path d s s
  | step {s t u : Nat} : Path d s t → u ∈ DFA.succs (d.st t) → Path d s u

theorem path_lt (d : DFA Nat) (hT : TargetsOK d) (s t : Nat) (p : Path d s t) (hs : s < d.length) :
    t < d.length := by
  induction p with
  | refl => exact hs
  | step _ hu ih => exact hT _ ih _ hu

-- `hini` is not needed for the proof (the flag is forced by closure alone); it is kept because it is
-- part of the stated property.
set_option linter.unusedVariables false in
/-- Soundness along paths: a state reached from an initial state on a path that passes an accepting
state strictly before it has its flag set. -/
theorem backtrack_sound (d d' : DFA Nat) (hT : TargetsOK d) (h : updateBacktracks d = some d')
    (i a t u : Nat) (hi : i < d.length) (hini : (d.st i).initial = true)
    (p1 : Path d i a) (hacc : accOf d a = true) (hstep : t ∈ DFA.succs (d.st a)) (p2 : Path d t u) :
    (d'.st u).backtrack = true := by
  obtain ⟨_, _, hcl⟩ := backtrack_closed d d' hT h
  have ha : a < d.length := path_lt d hT i a p1 hi
  have ht : t < d.length := hT a ha t hstep
  have hbt : (d'.st t).backtrack = true := hcl a ha t hstep (by simp [hacc])
  induction p2 with
  | refl => exact hbt
  | step p hu ih =>
    exact hcl _ (path_lt d hT _ _ p ht) _ hu (by simp [ih])

theorem visited_path (d : DFA Nat) (vis : List (Option Bool)) (hinv : Inv d [] vis) (s t : Nat)
    (p : Path d s t) (hs : ∃ b, vis.getD s none = some b) : ∃ b, vis.getD t none = some b := by
  induction p with
  | refl => exact hs
  | step _ hu ih =>
    obtain ⟨b, hb⟩ := ih
    obtain ⟨b', hb', _⟩ := covered_nil vis _ _ (hinv.closed _ b hb _ hu)
    exact ⟨b', hb'⟩

/-- The `assert_eq!(visited.len(), states.len())` cannot fire when every state is reachable from an
initial state. -/
theorem backtrack_total (d : DFA Nat) (hT : TargetsOK d)
    (hreach : ∀ s, s < d.length → ∃ i, i < d.length ∧ (d.st i).initial = true ∧ Path d i s) :
    ∃ d', updateBacktracks d = some d' := by
  obtain ⟨vis, hloop, hinv⟩ := backtrack_loop d hT
  have hall : vis.all Option.isSome = true := by
    apply List.all_eq_true.mpr
    intro x hx
    obtain ⟨n, hn, rfl⟩ := List.getElem_of_mem hx
    obtain ⟨i, hi, hini, p⟩ := hreach n (by rw [← hinv.len]; exact hn)
    obtain ⟨b0, hb0, _⟩ := covered_nil vis i _ (hinv.initial i hi hini)
    obtain ⟨b, hb⟩ := visited_path d vis hinv i n p ⟨b0, hb0⟩
    simp [List.getD, hn] at hb
    simp [hb]
  refine ⟨d.zipWith (fun st v => { st with backtrack := v.getD false }) vis, ?_⟩
  simp only [updateBacktracks, hloop, hall, if_true]

end Backtrack
end Lexgen
