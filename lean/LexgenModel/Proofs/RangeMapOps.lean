import LexgenModel.Proofs.RangeMap
/-!
# `RangeMap::remove_ranges` specification

Well-formedness is preserved, and the result is characterised point-wise through `lookup`. Every
branch of the loop is one `step_one` or `step_skip`.
-/

namespace Lexgen.RangeMap
variable {α β : Type}

def diffOpt (a : Option α) (b : Option β) : Option α := if b.isSome then none else a

theorem diffOpt_none_left (b : Option β) : diffOpt (none : Option α) b = none :=
  ite_self none

theorem diffOpt_none_right (a : Option α) : diffOpt a (none : Option β) = a := rfl

theorem diffOpt_heads {s rs c : Nat} {v : α} {rv : β} (h : rs ≤ s) :
    diffOpt (if s ≤ c then some v else none) (if rs ≤ c then some rv else none) = none := by
  by_cases hc : s ≤ c
  · rw [if_pos hc, if_pos (Nat.le_trans h hc)]; rfl
  · rw [if_neg hc]; exact diffOpt_none_left _

theorem diffOpt_heads' {s rs c : Nat} {v : α} {rv : β} (h : s < rs) :
    lookup [(s, rs - 1, v)] c =
      diffOpt (if s ≤ c then some v else none) (if rs ≤ c then some rv else none) := by
  have hlt : c ≤ rs - 1 ↔ c < rs := Nat.le_sub_one_iff_lt (Nat.zero_lt_of_lt h)
  rw [lookup]
  by_cases hc : rs ≤ c
  · rw [if_pos hc, if_neg fun h' => Nat.not_le_of_lt (hlt.mp h'.2) hc]; exact (if_pos rfl).symm
  · rw [if_neg hc, diffOpt_none_right]
    by_cases hs : s ≤ c
    · rw [if_pos hs, if_pos ⟨hs, hlt.mpr (Nat.lt_of_not_le hc)⟩]
    · rw [if_neg hs, if_neg fun h' => hs h'.1]; rfl

/-- Point-wise case analysis: locate `c` relative to the four end points of the two heads, then
decide every interval test with `omega`; `r1`/`r2` say that the tails are `none` up to the head's
end. Contradictory positions are closed by `omega` directly. -/
local macro "lk_cases " c:ident s1:ident e1:ident s2:ident e2:ident " with " r1:ident r2:ident : tactic =>
  `(tactic|
    (by_cases q1 : $s1 ≤ $c <;> by_cases q2 : $c ≤ $e1 <;> by_cases q3 : $s2 ≤ $c <;> by_cases q4 : $c ≤ $e2 <;>
      first
        | omega
        | simp (disch := omega) only [if_pos, if_neg, $r1:ident, $r2:ident, mergeOpt2, Option.isSome,
            mergeOpt2_none_left, mergeOpt2_none_right]))

/-- Same as `lk_cases`, for the `removeRanges` goals. -/
local macro "rm_cases " c:ident s1:ident e1:ident s2:ident e2:ident " with " r1:ident r2:ident : tactic =>
  `(tactic|
    (by_cases q1 : $s1 ≤ $c <;> by_cases q2 : $c ≤ $e1 <;> by_cases q3 : $s2 ≤ $c <;> by_cases q4 : $c ≤ $e2 <;>
      first
        | omega
        | simp (disch := omega) only [if_pos, if_neg, $r1:ident, $r2:ident, Option.isSome_some, Option.isSome_none,
            if_true, if_false, Bool.false_eq_true, ite_self]))

theorem removeRanges_spec (l1 : RangeMap α) (l2 : RangeMap β) (lo lo2 : Nat)
    (h1 : WFFrom lo l1) (h2 : WFFrom lo2 l2) :
    WFFrom lo (removeRanges l1 l2) ∧
    ∀ c, lookup (removeRanges l1 l2) c = if (lookup l2 c).isSome then none else lookup l1 c := by
  show _ ∧ ∀ c, _ = diffOpt (lookup l1 c) (lookup l2 c)
  fun_induction removeRanges l1 l2 generalizing lo lo2
  case case1 l2 => exact ⟨trivial, fun c => (diffOpt_none_left _).symm⟩
  case case2 r rest => exact ⟨h1, fun c => rfl⟩
  case case3 s e v rest rs re rv rrest hA ih =>
    have w2 : WFFrom (e + 1) ((rs, re, rv) :: rrest) := ⟨hA, h2.2⟩
    refine step_one h1.1 h1.2.1 (Nat.le_refl e) (ih (e + 1) lo2 h1.2.2 h2) .tail .refl
      fun c hc => ?_
    rw [lookup_none_of_lt w2 (Nat.lt_succ_of_le hc), diffOpt_none_right, lookup_head h1.2.2 hc]
  case case4 s e v rest rs re rv rrest hA hB ih =>
    have w1 : WFFrom s ((s, e, v) :: rest) := ⟨Nat.le_refl s, h1.2⟩
    refine step_skip h1.1 hB (ih s (re + 1) w1 h2.2.2) .refl .tail fun c hc => ?_
    rw [lookup_none_of_lt w1 (Nat.lt_of_le_of_lt hc hB), diffOpt_none_left]
  case case5 s e v rest rs re rv rrest hA hB os oe hC hD ih =>
    have hrs : rs ≤ s := Nat.le_trans (Nat.le_max_right s rs) (Nat.le_of_eq hC)
    have hre : e ≤ re := Nat.le_trans (Nat.le_of_eq hD.symm) (Nat.min_le_right e re)
    refine step_skip (Nat.le_trans h1.1 (Nat.le_succ_of_le h1.2.1)) (Nat.lt_succ_self e) (ih (e + 1) lo2 h1.2.2 h2)
      .tail .refl fun c hc => ?_
    rw [lookup_le_end h1.2.2 hc, lookup_le_end h2.2.2 (Nat.le_trans hc hre), diffOpt_heads hrs]
  case case6 s e v rest rs re rv rrest hA hB os oe hC hD ih =>
    have hrs : rs ≤ s := Nat.le_trans (Nat.le_max_right s rs) (Nat.le_of_eq hC)
    have hre : re < e := Nat.lt_of_not_le (mt Nat.min_eq_left hD)
    have hoe : oe = re := Nat.min_eq_right (Nat.le_of_lt hre)
    clear_value oe; subst hoe
    refine step_skip (Nat.le_trans h1.1 (Nat.le_succ_of_le (Nat.le_of_not_lt hB))) (Nat.lt_succ_self oe)
      (ih (oe + 1) (oe + 1) ⟨Nat.le_refl _, hre, h1.2.2⟩ h2.2.2)
      (.trim (Nat.le_succ_of_le (Nat.le_of_not_lt hB)) (Nat.le_refl _)) .tail fun c hc => ?_
    rw [lookup_le_end h1.2.2 (Nat.le_trans hc (Nat.le_of_lt hre)), lookup_le_end h2.2.2 hc, diffOpt_heads hrs]
  case case7 s e v rest rs re rv rrest hA hB os oe hC hD ih =>
    have hrs : s < rs := Nat.lt_of_not_le (mt Nat.max_eq_left hC)
    have hre : e ≤ re := Nat.le_trans (Nat.le_of_eq hD.symm) (Nat.min_le_right e re)
    have hos : os = rs := Nat.max_eq_right (Nat.le_of_lt hrs)
    clear_value os; subst hos
    refine step_one h1.1 (Nat.le_sub_one_of_lt hrs) (Nat.le_trans (Nat.sub_le os 1) (Nat.le_of_not_lt hA))
      (ih (e + 1) lo2 h1.2.2 h2) .tail .refl fun c hc => ?_
    rw [lookup_le_end h1.2.2 hc, lookup_le_end h2.2.2 (Nat.le_trans hc hre), diffOpt_heads' hrs]
  case case8 s e v rest rs re rv rrest hA hB os oe hC hD ih =>
    have hrs : s < rs := Nat.lt_of_not_le (mt Nat.max_eq_left hC)
    have hre : re < e := Nat.lt_of_not_le (mt Nat.min_eq_left hD)
    have hos : os = rs := Nat.max_eq_right (Nat.le_of_lt hrs)
    have hoe : oe = re := Nat.min_eq_right (Nat.le_of_lt hre)
    clear_value os oe; subst hos hoe
    refine step_one h1.1 (Nat.le_sub_one_of_lt hrs) (Nat.le_trans (Nat.sub_le os 1) h2.2.1)
      (ih (oe + 1) lo2 ⟨Nat.le_refl _, hre, h1.2.2⟩ h2)
      (.trim (Nat.le_succ_of_le (Nat.le_of_not_lt hB)) (Nat.le_refl _)) .refl fun c hc => ?_
    rw [lookup_le_end h1.2.2 (Nat.le_trans hc (Nat.le_of_lt hre)), lookup_le_end h2.2.2 hc, diffOpt_heads' hrs]

end Lexgen.RangeMap
