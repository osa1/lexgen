import LexgenModel.Proofs.NextProtocol
/-!
# Locations reported by `next()` are exact

`AtPos` (the lexer state is consistent with the input at explicit character positions) is an invariant
of `next()`, and one rule induction over a call (`acct_of_spec`) says which span of the input the call
accounts for. From it: `next_boundary`, `next_views`, and the theorems of `Proofs/Accounting.lean`.
-/
namespace Lexgen

variable {σ τ ε : Type}

/-- lexer state at a lexeme boundary with explicit positions: `start ≤ pos ≤ |input|`, the iterator is the input from `pos`, the two
match locations are the scan locations of `start` and `pos`, nothing is saved, and once end-of-input has been handled nothing is left.

The top of the `loop` in `next()` is described in two halves. `Ready` (Spec/Machine.lean) is about the state numbers: `__state` is the
entry of a rule set; it is what makes a call well-defined and is kept by every call. `Boundary` (Spec/Scan.lean) is about the
position in a given input: iterator and locations agree with it; `AtPos` is `Boundary` with the two positions named, plus the clause for
`done` (`atPos_boundary`, `atPos_of_boundary`). Both halves demand `last = none`; a theorem about items and positions assumes both. -/
def AtPos (width : Nat → Nat) (input : List Nat) (st : LState σ) (start pos : Nat) : Prop :=
  st.last = none ∧ start ≤ pos ∧ pos ≤ input.length ∧ st.iter = input.drop pos ∧
  st.curEnd = locAt width input pos ∧ st.curStart = locAt width input start ∧ (st.done = true → pos = input.length)

/-- No semantic action that continues (returns `Continue`: `res = none`) resets the match, on the views it can be handed. Note that the
wrapper of a `skip` rule (`re,`) does both, so this excludes lexers with `skip` rules. -/
def NoResetOnContinue (cfg : Config σ τ ε) (input : List Nat) : Prop :=
  ∀ a v, ViewOK cfg input v → ((cfg.actions a).run v).res = none → ((cfg.actions a).run v).reset = false

namespace AtPos
variable {width : Nat → Nat} {input : List Nat} {st : LState σ} {start pos : Nat} (h : AtPos width input st start pos)
include h

theorem last : st.last = none := h.1
theorem start_le : start ≤ pos := h.2.1
theorem pos_le : pos ≤ input.length := h.2.2.1
theorem iter : st.iter = input.drop pos := h.2.2.2.1
theorem curEnd : st.curEnd = locAt width input pos := h.2.2.2.2.1
theorem curStart : st.curStart = locAt width input start := h.2.2.2.2.2.1
theorem done : st.done = true → pos = input.length := h.2.2.2.2.2.2

end AtPos

namespace NextLoc

theorem locAt_add (w : Nat → Nat) (input : List Nat) (pos k : Nat) :
    ((input.drop pos).take k).foldl (Loc.advance w) (locAt w input pos) = locAt w input (pos + k) := by
  unfold locAt
  rw [← List.foldl_append, ← List.take_add]

theorem locAt_ge (w : Nat → Nat) (input : List Nat) (n : Nat) (h : input.length ≤ n) :
    locAt w input n = locAt w input input.length := by
  unfold locAt
  rw [List.take_of_length_le h, List.take_of_length_le (Nat.le_refl _)]

theorem advance_byte (w : Nat → Nat) (l : Loc) (c : Nat) :
    (l.advance w c).byte = l.byte + utf8Len c := by
  unfold Loc.advance
  by_cases h10 : c = 10
  · simp only [h10, if_true]
  · by_cases h9 : c = 9
    · simp only [h9, if_true]
      rfl
    · simp only [h10, h9, if_false]

theorem foldl_byte (w : Nat → Nat) :
    ∀ (l : List Nat) (init : Loc),
      (l.foldl (Loc.advance w) init).byte = init.byte + (l.map utf8Len).sum := by
  intro l
  induction l with
  | nil => intro init; simp
  | cons x xs ih =>
    intro init
    simp only [List.foldl_cons, List.map_cons, List.sum_cons]
    rw [ih, advance_byte]
    omega

theorem locAt_byte (w : Nat → Nat) (input : List Nat) (n : Nat) :
    (locAt w input n).byte = ((input.take n).map utf8Len).sum := by
  unfold locAt
  rw [foldl_byte]
  exact Nat.zero_add _

theorem utf8Len_pos (c : Nat) : 0 < utf8Len c := by
  unfold utf8Len
  split
  · decide
  · split
    · decide
    · split <;> decide

theorem charIdxOfByte_cons (c : Nat) (rest : List Nat) (b : Nat) (hb : 0 < b) :
    charIdxOfByte (c :: rest) b =
      if utf8Len c ≤ b then (charIdxOfByte rest (b - utf8Len c)).map (· + 1) else none := by
  cases b with
  | zero => omega
  | succ k => rfl

theorem charIdxOfByte_sum :
    ∀ (input : List Nat) (n : Nat), n ≤ input.length →
      charIdxOfByte input ((input.take n).map utf8Len).sum = some n := by
  intro input
  induction input with
  | nil =>
    intro n hn
    have : n = 0 := by simpa using hn
    subst this
    rfl
  | cons c rest ih =>
    intro n hn
    cases n with
    | zero => rfl
    | succ m =>
      have hm : m ≤ rest.length := by simpa using hn
      simp only [List.take_succ_cons, List.map_cons, List.sum_cons]
      have hpos := utf8Len_pos c
      rw [charIdxOfByte_cons c rest _ (by omega)]
      have hle : utf8Len c ≤ utf8Len c + ((rest.take m).map utf8Len).sum := Nat.le_add_right _ _
      rw [if_pos hle, Nat.add_sub_cancel_left, ih m hm]
      rfl

theorem sliceBytes_locAt (w : Nat → Nat) (input : List Nat) (i j : Nat) (hij : i ≤ j)
    (hj : j ≤ input.length) :
    sliceBytes input (locAt w input i).byte (locAt w input j).byte =
      some ((input.drop i).take (j - i)) := by
  unfold sliceBytes
  rw [locAt_byte, locAt_byte, charIdxOfByte_sum input i (by omega), charIdxOfByte_sum input j hj]
  simp only [hij, if_true]

theorem atPos_of_boundary {w : Nat → Nat} {input : List Nat} {st : LState σ} (hb : Boundary w input st)
    (hd : st.done = false) : ∃ start pos, AtPos w input st start pos := by
  obtain ⟨hl, start, pos, h1, h2, h3, h4, h5⟩ := hb
  exact ⟨start, pos, hl, h1, h2, h3, h4, h5, fun h => by rw [hd] at h; cases h⟩

theorem atPos_boundary {w : Nat → Nat} {input : List Nat} {st : LState σ} {start pos : Nat}
    (h : AtPos w input st start pos) : Boundary w input st :=
  ⟨h.last, start, pos, h.start_le, h.pos_le, h.iter, h.curEnd, h.curStart⟩

theorem atPos_matchState {w : Nat → Nat} {input : List Nat} {st : LState σ} {start pos : Nat}
    (h : AtPos w input st start pos) {k : Nat} (hk : k ≤ st.iter.length) {e : Bool}
    (he : e = true → k = st.iter.length) (n : Nat) : AtPos w input (matchState w st k e n) start (pos + k) := by
  obtain ⟨_, h1, h2, h3, h4, h5, _⟩ := h
  have hlen : st.iter.length = input.length - pos := by rw [h3, List.length_drop]
  refine ⟨rfl, Nat.le_trans h1 (Nat.le_add_right _ _), Nat.add_le_of_le_sub' h2 (hlen ▸ hk), ?_, ?_, h5, fun hd => ?_⟩
  · show st.iter.drop k = _
    rw [h3, List.drop_drop]
  · show (st.iter.take k).foldl _ st.curEnd = _
    rw [h3, h4, locAt_add]
  · rw [he hd, hlen]
    exact Nat.add_sub_cancel' h2

theorem atPos_errSt {cfg : Config σ τ ε} {input : List Nat} {st : LState σ} {start pos : Nat}
    (h : AtPos cfg.width input st start pos) (s : Nat) :
    ∃ p, (pos < p ∨ pos = input.length) ∧ pos ≤ p ∧ AtPos cfg.width input (errSt cfg s st) p p := by
  obtain ⟨_, _, h2, h3, h4, _, _⟩ := h
  obtain ⟨k, hk, hp, hd, hit, hce⟩ := errSt_advance cfg s st
  have hlen : st.iter.length = input.length - pos := by rw [h3, List.length_drop]
  rw [h3, List.drop_drop] at hit
  rw [h3, h4, locAt_add] at hce
  have hend : k = st.iter.length → pos + k = input.length := fun h => by
    rw [h, hlen]
    exact Nat.add_sub_cancel' h2
  refine ⟨pos + k, ?_, Nat.le_add_right _ _, rfl, Nat.le_refl _, Nat.add_le_of_le_sub' h2 (hlen ▸ hk), hit, hce, hce,
    fun hdn => hend (hd hdn)⟩
  rcases hp with hp | hp
  · exact Or.inl (Nat.lt_add_of_pos_right hp)
  · rcases Nat.eq_zero_or_pos k with rfl | hk0
    · exact Or.inr (hend (hd hp))
    · exact Or.inl (Nat.lt_add_of_pos_right hk0)

theorem atPos_callSt {ρ : Type} {cfg : Config σ τ ε} {input : List Nat} {st : LState σ} {start pos : Nat}
    (h : AtPos cfg.width input st start pos) (eff : Effect σ ρ) :
    AtPos cfg.width input (callSt cfg eff st st.curStart) start pos ∧
    AtPos cfg.width input (callSt cfg eff st st.curEnd) pos pos := by
  obtain ⟨h0, h1, h2, h3, h4, h5, h6⟩ := h
  exact ⟨⟨h0, h1, h2, h3, h4, h5, h6⟩, ⟨h0, Nat.le_refl _, h2, h3, h4, h4, h6⟩⟩

theorem atPos_callSt_cont {ρ : Type} {cfg : Config σ τ ε} {input : List Nat} {st : LState σ} {start pos : Nat}
    (h : AtPos cfg.width input st start pos) (eff : Effect σ ρ) :
    ∃ start1, start ≤ start1 ∧ (start1 = start ∨ start1 = pos) ∧ (eff.reset = false → start1 = start) ∧
      AtPos cfg.width input (callSt cfg eff st (if eff.reset then st.curEnd else st.curStart)) start1 pos := by
  cases eff.reset with
  | false => exact ⟨start, Nat.le_refl _, Or.inl rfl, fun _ => rfl, (atPos_callSt h eff).1⟩
  | true => exact ⟨pos, h.start_le, Or.inr rfl, fun h => (by cases h), (atPos_callSt h eff).2⟩

theorem mkView_ok (cfg : Config σ τ ε) (input : List Nat) (a : Nat) {st : LState σ} {start pos : Nat}
    (hp : AtPos cfg.width input st start pos) : ViewOK cfg input (mkView cfg a st) := by
  obtain ⟨_, h1, h2, h3, h4, h5, _⟩ := hp
  refine ⟨start, pos, h1, h2, h5, h4, ?_, ?_⟩
  · show st.iter.head? = input[pos]?
    rw [h3, List.head?_drop]
  · intro hin
    unfold mkView
    simp only [hin, h4, h5]
    exact sliceBytes_locAt cfg.width input start pos h1 h2

/-- What the item returned by a call that began at `(start, pos)` and ended at `(start', pos')` says. `i` is where the match of the
last round began: the `start` of the call, or, when an earlier `continue` round of the same call reset the match, the position that
round had reached, which is at or after `pos`; hence `i = start ∨ pos ≤ i`, the form that composes over rounds (`acct_trans`). -/
def ItemAcc (cfg : Config σ τ ε) (input : List Nat) (start pos start' pos' : Nat) (st' : LState σ) :
    Option (Item τ ε) → Prop
  | some (.tok s _ e) => ∃ i, start ≤ i ∧ i ≤ pos' ∧ (i = start ∨ pos ≤ i) ∧
      s = locAt cfg.width input i ∧ e = locAt cfg.width input pos' ∧ start' = pos'
  | some (.invalid l) => ∃ i, start ≤ i ∧ i ≤ pos' ∧ (i = start ∨ pos ≤ i) ∧
      (NoResetOnContinue cfg input → i = start) ∧ (i < pos' ∨ i = input.length) ∧
      l = locAt cfg.width input i ∧ start' = pos' ∧ (pos < pos' ∨ pos = input.length)
  | some (.custom l _) => ∃ i, start ≤ i ∧ i ≤ pos' ∧ (i = start ∨ pos ≤ i) ∧
      l = locAt cfg.width input i ∧ start' = pos'
  | none => st'.done = true ∧ pos' = input.length

def Acct (cfg : Config σ τ ε) (input : List Nat) (start pos : Nat) (item : Option (Item τ ε))
    (st' : LState σ) : Prop :=
  ∃ start' pos', AtPos cfg.width input st' start' pos' ∧ pos ≤ pos' ∧ start ≤ start' ∧
    ItemAcc cfg input start pos start' pos' st' item

theorem lt_or_end_mono {x y z n : Nat} (hxy : x ≤ y) (hyz : y ≤ z) (h : y < z ∨ y = n) : x < z ∨ x = n :=
  h.elim (fun h => Or.inl (Nat.lt_of_le_of_lt hxy h))
    fun h => (Nat.lt_or_eq_of_le hxy).imp (fun h' => Nat.lt_of_lt_of_le h' hyz) (fun h' => h'.trans h)

theorem acct_trans (cfg : Config σ τ ε) (input : List Nat) (start pos start1 pos1 : Nat)
    (item : Option (Item τ ε)) (st' : LState σ)
    (h1 : pos ≤ pos1) (h2 : start ≤ start1) (h3 : start1 = start ∨ pos ≤ start1)
    (h4 : NoResetOnContinue cfg input → start1 = start)
    (h : Acct cfg input start1 pos1 item st') : Acct cfg input start pos item st' := by
  obtain ⟨start', pos', hat, a1, a2, hit⟩ := h
  have key : ∀ i, start1 ≤ i → (i = start1 ∨ pos1 ≤ i) → start ≤ i ∧ (i = start ∨ pos ≤ i) := by
    intro i b1 b3
    refine ⟨Nat.le_trans h2 b1, ?_⟩
    rcases b3 with rfl | b3
    · exact h3
    · exact Or.inr (Nat.le_trans h1 b3)
  refine ⟨start', pos', hat, Nat.le_trans h1 a1, Nat.le_trans h2 a2, ?_⟩
  cases item with
  | none => exact hit
  | some it =>
    cases it with
    | tok s t e | custom l e =>
      obtain ⟨i, b1, b2, b3, b4⟩ := hit
      exact ⟨i, (key i b1 b3).1, b2, (key i b1 b3).2, b4⟩
    | invalid l =>
      obtain ⟨i, b1, b2, b3, b4, b5, b6, b7, b8⟩ := hit
      exact ⟨i, (key i b1 b3).1, b2, (key i b1 b3).2, fun hn => (b4 hn).trans (h4 hn), b5, b6, b7,
        lt_or_end_mono h1 a1 b8⟩

theorem acct_of_spec {cfg : Config σ τ ε} (input : List Nat) {st : LState σ}
    {r : Option (Item τ ε) × LState σ} (h : NextSpec cfg st r) :
    ∀ start pos, AtPos cfg.width input st start pos → Acct cfg input start pos r.1 r.2 := by
  induction h with
  | done hd =>
    exact fun start pos hp => ⟨start, pos, hp, Nat.le_refl _, Nat.le_refl _, hd, hp.done hd⟩
  | @ret st s k a e item st' _ _ hb hc =>
    intro start pos hp
    have hp' := atPos_matchState hp hb.1.1 (e := e) (fun he => cand_eoi_len (he ▸ hb.1)) 0
    obtain ⟨rfl, cs, hcs, hitem⟩ := callAction_ret hc
    have hsk : start ≤ pos + k := Nat.le_trans hp.start_le (Nat.le_add_right _ _)
    refine ⟨pos + k, pos + k, (atPos_callSt hp' _).2, Nat.le_add_right _ _, hsk, ?_⟩
    rcases hcs with rfl | rfl
    · rcases hitem with ⟨t, rfl⟩ | ⟨x, rfl⟩
      · exact ⟨start, Nat.le_refl _, hsk, Or.inl rfl, hp'.curStart, hp'.curEnd, rfl⟩
      · exact ⟨start, Nat.le_refl _, hsk, Or.inl rfl, hp'.curStart, rfl⟩
    · rcases hitem with ⟨t, rfl⟩ | ⟨x, rfl⟩
      · exact ⟨pos + k, hsk, Nat.le_refl _, Or.inr (Nat.le_add_right _ _), hp'.curEnd, hp'.curEnd, rfl⟩
      · exact ⟨pos + k, hsk, Nat.le_refl _, Or.inr (Nat.le_add_right _ _), hp'.curEnd, rfl⟩
  | @cont st s k a e st1 r _ _ hb hc _ ih =>
    intro start pos hp
    have hp' := atPos_matchState hp hb.1.1 (e := e) (fun he => cand_eoi_len (he ▸ hb.1)) 0
    obtain ⟨hres, rfl⟩ := callAction_cont hc
    have hpk : pos ≤ pos + k := Nat.le_add_right _ _
    obtain ⟨start1, hle, hor, hnr, hp1⟩ := atPos_callSt_cont hp' _
    refine acct_trans cfg input start pos start1 (pos + k) _ _ hpk hle ?_ (fun hn => ?_) (ih start1 (pos + k) hp1)
    · exact hor.imp id (fun (h : start1 = pos + k) => h ▸ hpk)
    · exact hnr (hn a _ (mkView_ok cfg input a hp') hres)
  | @invalid st s =>
    intro start pos hp
    obtain ⟨p, hpp, hle, hp'⟩ := atPos_errSt hp s
    have hsp : start ≤ p := Nat.le_trans hp.start_le hle
    exact ⟨p, p, hp', hle, hsp, start, Nat.le_refl _, hsp, Or.inl rfl, fun _ => rfl, lt_or_end_mono hp.start_le hle hpp,
      hp.curStart, rfl, hpp⟩
  | @eof st _ _ _ hit =>
    intro start pos hp
    obtain ⟨h0, h1, h2, h3, h4, h5, _⟩ := hp
    have hlen : pos = input.length := Nat.le_antisymm h2 (List.drop_eq_nil_iff.1 (h3.symm.trans hit))
    exact ⟨start, pos, ⟨h0, h1, h2, h3, h4, h5, fun _ => hlen⟩, Nat.le_refl _, Nat.le_refl _, rfl, hlen⟩

theorem callAction_congr (cfg cfg' : Config σ τ ε) (hent : cfg'.entries = cfg.entries) (hin : cfg'.input = cfg.input)
    (hinl : cfg'.inl = cfg.inl) (a : Nat) (st : LState σ)
    (hrun : (cfg.actions a).run (mkView cfg a st) = (cfg'.actions a).run (mkView cfg a st)) :
    callAction cfg a st = callAction cfg' a st := by
  have hv : (cfg'.actions a).run (mkView cfg' a st) = (cfg.actions a).run (mkView cfg a st) := by
    unfold mkView
    rw [hin]
    exact hrun.symm
  have hsw : switchNum cfg' = switchNum cfg := by
    funext r
    unfold switchNum
    rw [hinl, hent]
  rw [callAction_spec cfg a st rfl, callAction_spec cfg' a st hv]
  unfold callSt
  rw [hsw]

end NextLoc

/-- Every location the lexer reports is the location obtained by scanning the input from its
beginning (`locAt`), spans are ordered, and the invariant holds again after the call. -/
theorem next_boundary (cfg : Config σ τ ε) (hm : MachineOK cfg) (input : List Nat) (st : LState σ)
    (hb : Boundary cfg.width input st) (item : Option (Item τ ε)) (st' : LState σ)
    (h : next cfg st = some (item, st')) :
    Boundary cfg.width input st' ∧ ItemLocOK cfg.width input item := by
  cases hd : st.done with
  | true =>
    rw [next_done cfg st hd] at h
    cases h
    exact ⟨hb, trivial⟩
  | false =>
    obtain ⟨start, pos, hp⟩ := NextLoc.atPos_of_boundary hb hd
    obtain ⟨start', pos', hp', _, _, hit⟩ := NextLoc.acct_of_spec input (next_spec hm hb.1 h) start pos hp
    have hle := hp'.pos_le
    refine ⟨NextLoc.atPos_boundary hp', ?_⟩
    cases item with
    | none => trivial
    | some it =>
      cases it with
      | tok s t e =>
        obtain ⟨i, _, b2, _, b4, b5, _⟩ := hit
        exact ⟨i, pos', b2, hle, b4, b5⟩
      | custom l e =>
        obtain ⟨i, _, b2, _, b4, _⟩ := hit
        exact ⟨i, Nat.le_trans b2 hle, b4⟩
      | invalid l =>
        obtain ⟨i, _, b2, _, _, _, b6, _⟩ := hit
        exact ⟨i, Nat.le_trans b2 hle, b6⟩

/-- Semantic actions are only ever handed views whose span, text and peeked character are exact:
replacing the actions by others that agree on such views does not change the result. -/
theorem next_views (cfg cfg' : Config σ τ ε) (hm : MachineOK cfg) (input : List Nat) (st : LState σ)
    (hb : Boundary cfg.width input st)
    (hsame : cfg'.dfa = cfg.dfa ∧ cfg'.ctxs = cfg.ctxs ∧ cfg'.entries = cfg.entries ∧ cfg'.width = cfg.width ∧ cfg'.input = cfg.input ∧
      cfg'.inl = cfg.inl)
    (hact : ∀ a v, ViewOK cfg input v → (cfg.actions a).run v = (cfg'.actions a).run v) :
    next cfg st = next cfg' st := by
  refine (nextLoop_congr hsame.1 hsame.2.2.2.2.2 (Boundary cfg.width input) (fun st s hb hd _ => ?_) _ st hb).symm
  obtain ⟨start, pos, hp⟩ := NextLoc.atPos_of_boundary hb hd
  show finish cfg' (scan cfg' _ s st.iter st) = finish cfg (scan cfg _ s st.iter st) ∧ _
  rw [scan_congr hsame.1 hsame.2.1 hsame.2.2.2.2.2 hsame.2.2.2.1]
  have hsp := scan_spec hm s st hb.1 hd
  show _ ∧ ∀ st1, finish cfg (scan cfg _ s st.iter st) = .cont st1 → _
  generalize scan cfg _ s st.iter st = o at hsp ⊢
  cases hsp with
  | @act k a e n hbest =>
    have hp' := NextLoc.atPos_matchState hp hbest.1.1 (e := e) (fun he => cand_eoi_len (he ▸ hbest.1)) n
    refine ⟨(NextLoc.callAction_congr cfg cfg' hsame.2.2.1 hsame.2.2.2.2.1 hsame.2.2.2.2.2 a _
      (hact a _ (NextLoc.mkView_ok cfg input a hp'))).symm, fun st1 hc => ?_⟩
    obtain ⟨_, rfl⟩ := callAction_cont hc
    obtain ⟨_, _, _, _, hp1⟩ := NextLoc.atPos_callSt_cont hp' _
    exact NextLoc.atPos_boundary hp1
  | err => exact ⟨rfl, fun st1 hc => by cases hc⟩
  | fin => exact ⟨rfl, fun st1 hc => by cases hc⟩

end Lexgen
