import LexgenModel.Spec.Lang
/-!
# Right-context functions (`generate_right_ctx_fns`) and the `firstOK` chains

`ctxRun` (the generated lookahead function) decides `CtxAccepts`; `firstOK` (the
`if ctx_i(..) {..} else ..` chains) selects the first entry whose context is absent or holds.
-/
namespace Lexgen

namespace CtxFn

/-- `CtxAccepts` from an arbitrary start state -/
def AcceptsFrom (d : DFA Nat) (s : Nat) (rest : List Nat) : Prop :=
  (∃ j t, j ≤ rest.length ∧ reachN d s (rest.take j) = some t ∧ (d.st t).accepting ≠ []) ∨
  (∃ t n u, reachN d s rest = some t ∧ n ≤ d.length ∧ eoiChain d n t = some u ∧
    (d.st u).accepting ≠ [])

/-- the common shape of one step of `ctxEoi` and of `ctxRun` -/
theorem step_iff (l : List Acc) (o : Option Nat) (f : Nat → Bool) :
    (if !l.isEmpty then true else match o with | some t => f t | none => false) = true ↔
      l ≠ [] ∨ ∃ t, o = some t ∧ f t = true := by
  cases l <;> cases o <;> simp

theorem ctxEoi_succ_iff (d : DFA Nat) (fuel s : Nat) :
    ctxEoi d (fuel + 1) s = true ↔
      (d.st s).accepting ≠ [] ∨ ∃ t, (d.st s).eoi = some t ∧ ctxEoi d fuel t = true := by
  rw [ctxEoi]
  exact step_iff _ _ _

theorem ctxRun_cons_iff (d : DFA Nat) (s c : Nat) (r : List Nat) :
    ctxRun d s (c :: r) = true ↔
      (d.st s).accepting ≠ [] ∨ ∃ t, lookupTrans (d.st s) c = some t ∧ ctxRun d t r = true := by
  rw [ctxRun]
  exact step_iff _ _ _

theorem eoiChain_succ_eq_some (d : DFA Nat) (n s u : Nat) :
    eoiChain d (n + 1) s = some u ↔ ∃ t, (d.st s).eoi = some t ∧ eoiChain d n t = some u := by
  rw [eoiChain]
  cases (d.st s).eoi <;> simp

theorem reachN_cons_eq_some (d : DFA Nat) (s c : Nat) (r : List Nat) (u : Nat) :
    reachN d s (c :: r) = some u ↔ ∃ t, lookupTrans (d.st s) c = some t ∧ reachN d t r = some u := by
  rw [reachN]
  cases lookupTrans (d.st s) c <;> simp

theorem ctxEoi_iff (d : DFA Nat) (fuel s : Nat) :
    ctxEoi d fuel s = true ↔
      ∃ n, n < fuel ∧ ∃ t, eoiChain d n s = some t ∧ (d.st t).accepting ≠ [] := by
  induction fuel generalizing s with
  | zero => exact ⟨fun h => (nomatch h), fun ⟨n, hn, _⟩ => absurd hn (Nat.not_lt_zero n)⟩
  | succ f ih =>
    rw [ctxEoi_succ_iff, Nat.exists_lt_succ_left]
    constructor
    · rintro (h | ⟨t, he, hc⟩)
      · exact Or.inl ⟨s, rfl, h⟩
      · obtain ⟨n, hn, u, hc, ha⟩ := (ih t).1 hc
        exact Or.inr ⟨n, hn, u, (eoiChain_succ_eq_some ..).2 ⟨t, he, hc⟩, ha⟩
    · rintro (⟨_, ⟨rfl⟩, h⟩ | ⟨n, hn, u, hc, ha⟩)
      · exact Or.inl h
      · obtain ⟨t, he, hc⟩ := (eoiChain_succ_eq_some ..).1 hc
        exact Or.inr ⟨t, he, (ih t).2 ⟨n, hn, u, hc, ha⟩⟩
theorem acceptsFrom_nil (d : DFA Nat) (s : Nat) :
    AcceptsFrom d s [] ↔
      ∃ n, n < d.length + 1 ∧ ∃ t, eoiChain d n s = some t ∧ (d.st t).accepting ≠ [] := by
  constructor
  · rintro (⟨j, t, _, hr, ha⟩ | ⟨t, n, u, ⟨rfl⟩, hn, hc, ha⟩)
    · rw [List.take_nil] at hr
      cases hr
      exact ⟨0, Nat.succ_pos _, s, rfl, ha⟩
    · exact ⟨n, Nat.lt_succ_of_le hn, u, hc, ha⟩
  · rintro ⟨n, hn, u, hc, ha⟩
    exact Or.inr ⟨s, n, u, rfl, Nat.le_of_lt_succ hn, hc, ha⟩

theorem acceptsFrom_cons (d : DFA Nat) (s c : Nat) (r : List Nat) :
    AcceptsFrom d s (c :: r) ↔
      (d.st s).accepting ≠ [] ∨ ∃ t, lookupTrans (d.st s) c = some t ∧ AcceptsFrom d t r := by
  constructor
  · rintro (⟨j, u, hj, hr, ha⟩ | ⟨u, n, v, hr, hn⟩)
    · cases j with
      | zero => cases hr; exact Or.inl ha
      | succ j =>
        obtain ⟨t, hl, hr⟩ := (reachN_cons_eq_some ..).1 hr
        exact Or.inr ⟨t, hl, Or.inl ⟨j, u, Nat.le_of_succ_le_succ hj, hr, ha⟩⟩
    · obtain ⟨t, hl, hr⟩ := (reachN_cons_eq_some ..).1 hr
      exact Or.inr ⟨t, hl, Or.inr ⟨u, n, v, hr, hn⟩⟩
  · rintro (ha | ⟨t, hl, ⟨j, u, hj, hr, ha⟩ | ⟨u, n, v, hr, hn⟩⟩)
    · exact Or.inl ⟨0, s, Nat.zero_le _, rfl, ha⟩
    · exact Or.inl ⟨j + 1, u, Nat.succ_le_succ hj, (reachN_cons_eq_some ..).2 ⟨t, hl, hr⟩, ha⟩
    · exact Or.inr ⟨u, n, v, (reachN_cons_eq_some ..).2 ⟨t, hl, hr⟩, hn⟩

theorem ctxRun_iff_from (d : DFA Nat) (s : Nat) (rest : List Nat) :
    ctxRun d s rest = true ↔ AcceptsFrom d s rest := by
  induction rest generalizing s with
  | nil => rw [ctxRun, ctxEoi_iff, acceptsFrom_nil]
  | cons c r ih =>
    rw [ctxRun_cons_iff, acceptsFrom_cons]
    simp only [ih]

theorem all_ok_iff (ok : Nat → Bool) (x : Acc) :
    x.ctx.all ok = true ↔ x.ctx = none ∨ ∃ i, x.ctx = some i ∧ ok i = true := by
  cases x.ctx <;> simp

theorem all_ok_eq_false_iff (ok : Nat → Bool) (x : Acc) :
    x.ctx.all ok = false ↔ ∃ i, x.ctx = some i ∧ ok i = false := by
  cases x.ctx <;> simp

theorem firstOK_eq_find? (ok : Nat → Bool) (accs : List Acc) :
    firstOK ok accs = (accs.find? fun x => x.ctx.all ok).map (·.value) := by
  induction accs with
  | nil => rfl
  | cons x rest ih =>
    rw [firstOK, List.find?_cons]
    cases hc : x.ctx with
    | none => rfl
    | some i =>
      show (if ok i = true then _ else _) = Option.map _ (match ok i with | true => _ | false => _)
      cases ok i
      · exact ih
      · rfl

end CtxFn

open CtxFn

/-- The generated context function returns `true` exactly when the context automaton accepts some
prefix of the remaining input (with end-of-input visible after it). -/
theorem ctxRun_iff (d : DFA Nat) (rest : List Nat) : ctxRun d 0 rest = true ↔ CtxAccepts d rest :=
  ctxRun_iff_from d 0 rest

theorem firstOK_none (ok : Nat → Bool) (accs : List Acc) :
    firstOK ok accs = none ↔ ∀ y ∈ accs, ∃ i, y.ctx = some i ∧ ok i = false := by
  rw [firstOK_eq_find?, Option.map_eq_none_iff, List.find?_eq_none]
  exact forall₂_congr fun y _ => by rw [Bool.not_eq_true, all_ok_eq_false_iff]

/-- A right context gates a match: the action selected from an accepting list is that of the first
entry that has no context or whose context holds; entries whose context fails are skipped exactly
as if they were absent. -/
theorem firstOK_spec (ok : Nat → Bool) (accs : List Acc) (a : Nat) :
    firstOK ok accs = some a ↔
      ∃ pre x post, accs = pre ++ x :: post ∧ x.value = a ∧
        (x.ctx = none ∨ ∃ i, x.ctx = some i ∧ ok i = true) ∧
        ∀ y ∈ pre, ∃ i, y.ctx = some i ∧ ok i = false := by
  rw [firstOK_eq_find?, Option.map_eq_some_iff]
  simp only [List.find?_eq_some_iff_append, all_ok_iff, Bool.not_eq_eq_eq_not, Bool.not_true, all_ok_eq_false_iff]
  constructor
  · rintro ⟨x, ⟨hx, pre, post, rfl, hpre⟩, rfl⟩
    exact ⟨pre, x, post, rfl, rfl, hx, hpre⟩
  · rintro ⟨pre, x, post, rfl, rfl, hx, hpre⟩
    exact ⟨x, ⟨hx, pre, post, rfl, hpre⟩, rfl⟩

end Lexgen
