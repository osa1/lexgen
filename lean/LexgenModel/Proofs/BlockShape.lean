import LexgenModel.Spec.WellFormed
import LexgenModel.Proofs.Subset
import LexgenModel.Proofs.TableLookup
/-!
# Structural facts about the DFA the work-list subset construction builds (`BlockOK`)

`nfaToDfa_tables` gives every state of the result its table (`DTable` w.r.t. `collect nfa S` for the
key `S` of the state) and flags only state 0 `initial`. From the tables of all states the six fields
of `BlockOK` follow.
-/
namespace Lexgen
namespace BlockShape
open Lexgen.Subset

variable {K : List Nat → Prop}

theorem noIncoming0_all {n : NFA} (h0 : NoIncoming0 n) : ∀ s,
    0 ∉ (n.st s).eps ∧ 0 ∉ (n.st s).any ∧ 0 ∉ (n.st s).eoi ∧
    (∀ e ∈ (n.st s).chars, 0 ∉ e.2) ∧ (∀ r ∈ (n.st s).ranges, 0 ∉ r.2.2) :=
  all_states (P := fun st => 0 ∉ st.eps ∧ 0 ∉ st.any ∧ 0 ∉ st.eoi ∧
    (∀ e ∈ st.chars, 0 ∉ e.2) ∧ (∀ r ∈ st.ranges, 0 ∉ r.2.2)) ⟨List.not_mem_nil, List.not_mem_nil, List.not_mem_nil, fun _ h => absurd h List.not_mem_nil,
      fun _ h => absurd h List.not_mem_nil⟩ h0

theorem not_tgt_zero {n : NFA} (h0 : NoIncoming0 n) : ¬ IsTgt n 0 := by
  rintro ⟨s, h | h | ⟨e, he, h⟩ | ⟨r, hr, h⟩⟩
  · exact (noIncoming0_all h0 s).2.1 h
  · exact (noIncoming0_all h0 s).2.2.1 h
  · exact (noIncoming0_all h0 s).2.2.2.1 e he h
  · exact (noIncoming0_all h0 s).2.2.2.2 r hr h

theorem epsReach_zero {n : NFA} (h0 : NoIncoming0 n) {m u : Nat} (h : EpsReach n m u) (hu : u = 0) :
    m = 0 := by
  induction h with
  | refl => exact hu
  | step he _ ih =>
    have := ih hu
    subst this
    exact absurd he (noIncoming0_all h0 _).1

theorem zero_not_in_closure {n : NFA} (hwf : NFAWF n) (h0 : NoIncoming0 n) {M : List Nat}
    (hM : ∀ m ∈ M, IsTgt n m) : 0 ∉ n.closure M := by
  intro h
  obtain ⟨m, hm, hr⟩ := (mem_closure hwf).mp h
  have := epsReach_zero h0 hr rfl
  subst this
  exact not_tgt_zero h0 (hM _ hm)

theorem final_noInto0 {nfa : NFA} (hwf : NFAWF nfa) (h0 : NoIncoming0 nfa) {b : Builder} (hf : Final K nfa b)
    (s : Nat) (hs : s < b.dfa.length) : 0 ∉ DFA.succs (b.dfa.st s) := by
  intro hmem
  obtain ⟨S, hS⟩ := wfb_has_key hf.wf hs
  obtain ⟨k, hkp, hk⟩ := (mem_succs (hf.tab S s hS) (fun _ _ _ => wfb_key_inj hf.wf) 0).mp hmem
  obtain ⟨M, hM, rfl⟩ := pushed_closure (collect_spec hwf S) hkp
  have heq : nfa.closure M = nfa.closure [0] := wfb_idx_inj hf.wf hk hf.zero
  have h00 : 0 ∈ nfa.closure [0] := (mem_closure hwf).mpr ⟨0, List.mem_singleton.mpr rfl, .refl 0⟩
  rw [← heq] at h00
  exact zero_not_in_closure hwf h0 hM h00

/-- no member of `S` has a char / range / any / end-of-input transition (`NFA.virgin` without the
clause on ε-transitions, for every member) -/
def Quiet (nfa : NFA) (S : List Nat) : Prop :=
  ∀ s ∈ S, (nfa.st s).chars = [] ∧ (nfa.st s).ranges = [] ∧ (nfa.st s).any = [] ∧ (nfa.st s).eoi = []

theorem Quiet.sub {nfa : NFA} {S T : List Nat} (h : Quiet nfa T) (hs : ∀ s ∈ S, s ∈ T) : Quiet nfa S :=
  fun s hsS => h s (hs s hsS)

theorem noTrans_iff_quiet {nfa : NFA} (hwf : NFAWF nfa) {S : List Nat} {col : Collected}
    (hcs : ColSpec nfa S col) {sm : List (List Nat × Nat)} {st : DState Nat} (ht : DTable nfa col sm st) :
    DFA.hasNoTransitions st = true ↔ Quiet nfa S := by
  rw [DFA.hasNoTransitions_iff, ht.chars.nil_iff, ht.ranges.nil_iff, ht.any.none_iff hwf, ht.eoi.none_iff hwf,
    hcs.chars_nil, hcs.ranges_nil hwf, hcs.any_nil, hcs.eoi_nil]
  exact ⟨fun h s hs => ⟨h.1 s hs, h.2.1 s hs, h.2.2.1 s hs, h.2.2.2 s hs⟩,
    fun h => ⟨fun s hs => (h s hs).1, fun s hs => (h s hs).2.1, fun s hs => (h s hs).2.2.1,
      fun s hs => (h s hs).2.2.2⟩⟩

theorem epsReach_virgin {n : NFA} {m u : Nat} (hv : NFA.virgin n m) (h : EpsReach n m u) : u = m := by
  cases h with
  | refl => rfl
  | step he _ => rw [hv.2.2.1] at he; cases he

theorem eoi_virgin {n : NFA} (he : EoiInert n) {s t : Nat} (h : t ∈ (n.st s).eoi) : NFA.virgin n t := by
  by_cases hs : s < n.length
  · exact he s t hs h
  · rw [st_eq_empty_of_le (Nat.le_of_not_lt hs)] at h; cases h

theorem final_eoiInert {nfa : NFA} (hwf : NFAWF nfa) (he : EoiInert nfa) {b : Builder} (hf : Final K nfa b)
    (s t : Nat) (hs : s < b.dfa.length) (h : (b.dfa.st s).eoi = some t) :
    DFA.hasNoTransitions (b.dfa.st t) = true := by
  obtain ⟨S, hS⟩ := wfb_has_key hf.wf hs
  have hcs := collect_spec hwf S
  have hk : (nfa.closure (collect nfa S).eoi, t) ∈ b.stateMap := (hf.tab S s hS).eoi.key_of_some h
  have hq : Quiet nfa (nfa.closure (collect nfa S).eoi) := by
    intro u hu
    obtain ⟨m, hm, hr⟩ := (mem_closure hwf).mp hu
    obtain ⟨s', _, hs'⟩ := (hcs.eoi m).mp hm
    have hv := eoi_virgin he hs'
    have := epsReach_virgin hv hr
    subst this
    exact ⟨hv.1, hv.2.1, hv.2.2.2.1, hv.2.2.2.2⟩
  exact (noTrans_iff_quiet hwf (collect_spec hwf _) (hf.tab _ t hk)).mpr hq

theorem sublist_of_ascending : ∀ (B A : List Nat), Ascending A → Ascending B → (∀ x ∈ A, x ∈ B) →
    List.Sublist A B := by
  intro B
  induction B with
  | nil =>
    intro A _ _ h
    have : A = [] := List.eq_nil_iff_forall_not_mem.mpr (fun x hx => by cases h x hx)
    rw [this]; exact List.Sublist.slnil
  | cons b B ih =>
    intro A hA hB h
    cases A with
    | nil => exact List.nil_sublist _
    | cons a A =>
      obtain ⟨ha, hA'⟩ := ascending_cons.mp hA
      obtain ⟨hb, hB'⟩ := ascending_cons.mp hB
      by_cases hab : a = b
      · subst hab
        refine List.Sublist.cons_cons _ (ih A hA' hB' fun x hx => ?_)
        exact (List.mem_cons.mp (h x (List.mem_cons_of_mem _ hx))).resolve_left (Nat.ne_of_gt (ha x hx))
      · -- `a` and everything after it lies above `b`, so in `B`
        have haB : a ∈ B := (List.mem_cons.mp (h a List.mem_cons_self)).resolve_left hab
        have hba : b < a := hb a haB
        refine List.Sublist.cons _ (ih (a :: A) hA hB' fun x hx => ?_)
        have hbx : b < x := (List.mem_cons.mp hx).elim (fun e => e ▸ hba) fun hx' => Nat.lt_trans hba (ha x hx')
        exact (List.mem_cons.mp (h x hx)).resolve_left (Nat.ne_of_gt hbx)

theorem isSublist_of_sublist : ∀ (l2 l1 : List Acc), List.Sublist l1 l2 → isSublist l1 l2 = true := by
  intro l2
  induction l2 with
  | nil =>
    intro l1 h
    have : l1 = [] := List.sublist_nil.mp h
    rw [this]; rfl
  | cons b bs ih =>
    intro l1 h
    cases l1 with
    | nil => rfl
    | cons a as =>
      simp only [isSublist]
      by_cases hab : a = b
      · subst hab
        simp only [beq_self_eq_true, if_true]
        exact ih as (List.cons_sublist_cons.mp h)
      · have hne : (a == b) = false := by simpa using hab
        simp only [hne]
        rcases List.sublist_cons_iff.mp h with h1 | ⟨r, h1, _⟩
        · exact ih _ h1
        · cases h1; exact absurd rfl hab

theorem final_anyClause {nfa : NFA} (hwf : NFAWF nfa) {b : Builder} (hf : Final K nfa b)
    (s a : Nat) (hs : s < b.dfa.length) (ha : (b.dfa.st s).any = some a) (t : Nat)
    (ht : t ∈ (b.dfa.st s).chars.map (·.2) ∨ t ∈ (b.dfa.st s).ranges.map (·.2.2))
    (hn : DFA.hasNoTransitions (b.dfa.st t) = true) :
    DFA.hasNoTransitions (b.dfa.st a) = true ∧
      isSublist (b.dfa.st a).accepting (b.dfa.st t).accepting = true := by
  obtain ⟨S, hS⟩ := wfb_has_key hf.wf hs
  have htab := hf.tab S s hS
  generalize collect nfa S = col at htab
  -- the key of the `_` target
  have hka : (nfa.closure col.any, a) ∈ b.stateMap := htab.any.key_of_some ha
  -- the key of the char / range target contains the `_` targets
  have hkt : ∃ M : List Nat, (∀ m ∈ col.any, m ∈ M) ∧ (nfa.closure M, t) ∈ b.stateMap := by
    rcases ht with ht | ht
    · obtain ⟨q, hq, rfl⟩ := List.mem_map.mp ht
      obtain ⟨e, he, hr⟩ := htab.chars.mem_right hq
      exact ⟨_, fun m hm => (mem_ctg col e m).mpr (Or.inr (Or.inr hm)), hr.2⟩
    · obtain ⟨q, hq, rfl⟩ := List.mem_map.mp ht
      obtain ⟨r, hr, hrr⟩ := htab.ranges.mem_right hq
      exact ⟨_, fun m hm => mem_setUnion.mpr (Or.inr hm), hrr.2.2⟩
  obtain ⟨M, hM, hkt⟩ := hkt
  have hsub : ∀ u ∈ nfa.closure col.any, u ∈ nfa.closure M := by
    intro u hu
    obtain ⟨m, hm, hr⟩ := (mem_closure hwf).mp hu
    exact (mem_closure hwf).mpr ⟨m, hM m hm, hr⟩
  have hta := hf.tab _ a hka
  have htt := hf.tab _ t hkt
  have hqt : Quiet nfa (nfa.closure M) := (noTrans_iff_quiet hwf (collect_spec hwf _) htt).mp hn
  refine ⟨(noTrans_iff_quiet hwf (collect_spec hwf _) hta).mpr (hqt.sub hsub), ?_⟩
  rw [hta.acc, htt.acc, (collect_spec hwf (nfa.closure col.any)).accs, (collect_spec hwf (nfa.closure M)).accs]
  apply isSublist_of_sublist
  exact (sublist_of_ascending _ _ (ascending_closure hwf _) (ascending_closure hwf _) hsub).filterMap _

/-- a state of the subset-construction result has no transitions iff no NFA state at the end of a
path spelling a word that leads to it has a symbol transition -/
theorem nfaToDfa_noTrans_iff {nfa : NFA} (hwf : NFAWF nfa) {d : DFA Nat}
    (hd : nfaToDfa nfa = some d) {w : List Sym} {t : Nat} (h : reachSym d 0 w = some t) :
    DFA.hasNoTransitions (d.st t) = true ↔ ∀ u, NPath nfa 0 w u →
      (nfa.st u).chars = [] ∧ (nfa.st u).ranges = [] ∧ (nfa.st u).any = [] ∧ (nfa.st u).eoi = [] := by
  obtain ⟨sm, hf⟩ := nfaToDfa_tables (K := fun _ => True) hd trivial fun _ _ _ _ => trivial
  obtain ⟨T, hT, hmem⟩ := hf.reach_key hwf h
  rw [noTrans_iff_quiet hwf (collect_spec hwf T) (hf.tab T t hT)]
  exact ⟨fun hq u hu => hq u ((hmem u).mpr hu), fun hq u hu => hq u ((hmem u).mp hu)⟩

/-- `BlockOK` needs no hypothesis on the target lists of the NFA. -/
theorem blockOK {nfa : NFA} (hwf : NFAWF nfa) (h0 : NoIncoming0 nfa) (he : EoiInert nfa) {d : DFA Nat}
    (hd : nfaToDfa nfa = some d) : BlockOK d := by
  obtain ⟨htir, hinit⟩ := nfaToDfa_inRange hd
  obtain ⟨sm, hf⟩ := nfaToDfa_tables (K := fun _ => True) hd trivial fun _ _ _ _ => trivial
  have h0d : 0 < d.length := Nat.lt_of_not_le fun hle => by
    rw [dst_eq_empty_of_le d hle] at hinit; cases hinit
  exact ⟨htir, ⟨h0d, hinit⟩, fun s => (hf.flags s).mp, final_noInto0 hwf h0 hf, final_eoiInert hwf he hf,
    final_anyClause hwf hf⟩

end BlockShape

set_option linter.unusedVariables false in
open Lexgen.Subset in
/-- structural facts about the DFA the work-list subset construction builds (beyond the language
it accepts); `hne` is a standing hypothesis of the callers and is not used -/
theorem blockOK_of_nfa (nfa : NFA) (hwf : NFAWF nfa) (hne : Subset.TargetsNonempty nfa)
    (h0 : NoIncoming0 nfa) (he : EoiInert nfa) (d : DFA Nat) (hd : nfaToDfa nfa = some d) : BlockOK d :=
  BlockShape.blockOK hwf h0 he hd

end Lexgen
