import LexgenModel.Proofs.NextProtocol
import LexgenModel.Proofs.Runs
/-!
# More about `Iterator::next`: resume position after an error, irrelevance of the input string,
the stream as a function of the lexer state, and the bound on the number of items
-/
namespace Lexgen

theorem IsRun.congr {α ι : Type} {step1 step2 : α → Option (ι × α)} {run1 run2 : Nat → α → List (Option ι) × α}
    (h1 : IsRun step1 run1) (h2 : IsRun step2 run2) (P : α → Prop)
    (h : ∀ a, P a → step1 a = step2 a ∧ ∀ i a', step1 a = some (i, a') → P a') (n : Nat) (a : α) (hp : P a) :
    run1 n a = run2 n a := by
  obtain ⟨e1, e2⟩ := h1.rel h2 (fun a b => a = b ∧ P a) (fun a b hab => by
    obtain ⟨rfl, hp⟩ := hab
    obtain ⟨he, hP⟩ := h a hp
    rw [← he]
    cases hn : step1 a with
    | none => exact .none
    | some r => exact .some r.1 ⟨rfl, hP r.1 r.2 hn⟩) n a a ⟨rfl, hp⟩
  exact Prod.ext e1 e2.1

variable {σ τ ε : Type}

namespace NextMore

theorem run_input (cfg : Config σ τ ε) (inp' : Option (List Nat)) (hI : IgnoresText cfg.actions)
    (a : Nat) (st : LState σ) :
    (cfg.actions a).run (mkView cfg a st) =
      (cfg.actions a).run (mkView { cfg with input := inp' } a st) :=
  (hI a (mkView cfg a st) (mkView { cfg with input := inp' } a st).text).trans
    (hI a (mkView { cfg with input := inp' } a st) (mkView { cfg with input := inp' } a st).text).symm

/-- `callAction` with the effect of the action function abstracted: the text of `callAction` after the action has run, so
that `callAction_eq` holds by `rfl` and the configuration's `input` visibly plays no part (`callWith_input`). Elsewhere the same
step is described through `callSt` (`callAction_spec`). -/
def callWith (cfg : Config σ τ ε) (eff : Effect σ (Except ε τ)) (st : LState σ) : StepOut σ τ ε :=
  let st := { st with user := eff.user }
  let st := if eff.reset then { st with curStart := st.curEnd } else st
  let st := match eff.switchTo with
    | some r => let n := switchNum cfg r; { st with state := n, initial := n }
    | none => st
  match eff.res with
  | none => .cont { st with state := st.initial }
  | some r =>
    let st := { st with state := st.initial }
    let ms := st.curStart
    let me := st.curEnd
    let st := { st with curStart := st.curEnd }
    match r with
    | .ok t => .ret (some (.tok ms t me)) st
    | .error e => .ret (some (.custom ms e)) st

theorem callAction_eq (cfg : Config σ τ ε) (a : Nat) (st : LState σ) :
    callAction cfg a st = callWith cfg ((cfg.actions a).run (mkView cfg a st)) st := rfl

theorem callWith_input (cfg : Config σ τ ε) (inp' : Option (List Nat)) (eff : Effect σ (Except ε τ))
    (st : LState σ) : callWith cfg eff st = callWith { cfg with input := inp' } eff st := rfl

theorem callAction_input (cfg : Config σ τ ε) (inp' : Option (List Nat)) (hI : IgnoresText cfg.actions)
    (a : Nat) (st : LState σ) : callAction cfg a st = callAction { cfg with input := inp' } a st := by
  rw [callAction_eq, callAction_eq, run_input cfg inp' hI a st]
  rfl

theorem runN_succ_some (cfg : Config σ τ ε) (n : Nat) (st : LState σ) (item : Option (Item τ ε))
    (st' : LState σ) (h : next cfg st = some (item, st')) :
    runN cfg (n + 1) st = (some item :: (runN cfg n st').1, (runN cfg n st').2) := by
  rw [runN]
  simp only [h]

theorem runN_succ_none (cfg : Config σ τ ε) (n : Nat) (st : LState σ) (h : next cfg st = none) :
    runN cfg (n + 1) st = ([none], st) := by
  rw [runN]
  simp only [h]

theorem itemCount_nil : itemCount ([] : List (Option (Option (Item τ ε)))) = 0 := rfl

theorem itemCount_cons_item (x : Item τ ε) (l : List (Option (Option (Item τ ε)))) :
    itemCount (some (some x) :: l) = itemCount l + 1 := by
  simp [itemCount]

theorem itemCount_cons_end (l : List (Option (Option (Item τ ε)))) :
    itemCount (some none :: l) = itemCount l := by
  simp [itemCount]

theorem runN_done (cfg : Config σ τ ε) : ∀ (n : Nat) (st : LState σ), st.done = true →
    runN cfg n st = (List.replicate n (some none), st) := by
  intro n
  induction n with
  | zero => intro st _; rfl
  | succ n ih =>
    intro st hd
    rw [runN_succ_some cfg n st none st (next_done cfg st hd), ih st hd]
    rfl

theorem callAction_ne_end (cfg : Config σ τ ε) (a : Nat) (st st' : LState σ) :
    callAction cfg a st ≠ .ret none st' := by
  intro h
  obtain ⟨_, _, _, ⟨_, h⟩ | ⟨_, h⟩⟩ := callAction_ret h <;> cases h

theorem runN_items_aux (cfg : Config σ τ ε) (hm : MachineOK cfg) :
    ∀ (n : Nat) (st : LState σ), Ready cfg st →
      (st.done = true → itemCount (runN cfg n st).1 = 0) ∧
      itemCount (runN cfg n st).1 ≤ st.iter.length + 1 ∧
      (∀ x ∈ (runN cfg n st).1, x ≠ none) ∧ Ready cfg (runN cfg n st).2 := by
  intro n
  induction n with
  | zero =>
    intro st hr
    exact ⟨fun _ => rfl, Nat.zero_le _, fun x hx => absurd hx List.not_mem_nil, hr⟩
  | succ n ih =>
    intro st hr
    obtain ⟨⟨item, st1⟩, hn⟩ := next_total cfg hm st hr
    obtain ⟨hr1, ⟨k, hk, hle, hp⟩, hnone, _⟩ := NextProtocol.ok_of_spec hm (next_spec hm hr.1 hn) hr
    obtain ⟨ih1, ih2, ih3, ih4⟩ := ih st1 hr1
    rw [runN_succ_some cfg n st item st1 hn]
    refine ⟨fun hd => ?_, ?_, fun x hx => ?_, ih4⟩
    · rw [next_done cfg st hd] at hn
      cases hn
      exact (itemCount_cons_end _).trans (ih1 hd)
    · cases item with
      | none => exact Nat.le_trans (Nat.le_of_eq ((itemCount_cons_end _).trans (ih1 (hnone rfl)))) (Nat.zero_le _)
      | some x =>
        rw [itemCount_cons_item]
        rcases hp x rfl with p | p
        · have hl : st1.iter.length < st.iter.length := by
            rw [hk, List.length_drop]
            exact Nat.sub_lt (Nat.lt_of_lt_of_le p hle) p
          exact Nat.succ_le_succ (Nat.le_trans ih2 hl)
        · rw [ih1 p]
          exact Nat.succ_le_succ (Nat.zero_le _)
    · rcases List.mem_cons.1 hx with rfl | hx
      · exact fun h => by cases h
      · exact ih3 x hx

end NextMore

open NextMore

/-- Where the lexer resumes after a failure: right after the characters read through `goto`
transitions plus the offending character (if one was read); end-of-input is flagged exactly when
everything was read. -/
theorem scanPlain_err_pos (cfg : Config σ τ ε) (ns : Nat → Option Nat)
    (htargets : targetsOK cfg.dfa = true) (hns : DispatchOK cfg.dfa cfg.inl ns)
    (s : Nat) (st : LState σ) (hlast : st.last = none) (hdone : st.done = false) (loc : Loc) (st' : LState σ)
    (h : scanPlain cfg ns s st.iter st = .err loc st') :
    st'.iter = st.iter.drop (gotoLen cfg.dfa s st.iter + 1) ∧
    st'.done = decide (gotoLen cfg.dfa s st.iter = st.iter.length) := by
  have ho := scanPlain_out cfg ns htargets hns st.iter s st rfl
  generalize scanPlain cfg ns s st.iter st = o at h ho
  cases ho with
  | act => cases h
  | fail n =>
    rw [failPlain_stopSt hlast hdone] at h
    cases h
    exact ⟨rfl, rfl⟩
  | fin => cases h
  | strayFin => cases h
  | strayGoto => cases h

/-- The input string is only read by `match_()`: for actions that ignore the text, a lexer built
from an iterator behaves like one built from a `&str`. -/
theorem next_input_irrelevant (cfg : Config σ τ ε) (inp' : Option (List Nat)) (hI : IgnoresText cfg.actions)
    (st : LState σ) : next cfg st = next { cfg with input := inp' } st := by
  refine (nextLoop_congr (cfg := cfg) (cfg' := { cfg with input := inp' }) rfl rfl (fun _ => True)
    (fun st s _ _ _ => ⟨?_, fun _ _ => trivial⟩) _ st trivial).symm
  show finish _ (scan _ _ s st.iter st) = finish cfg (scan cfg _ s st.iter st)
  rw [scan_congr (cfg := cfg) (cfg' := { cfg with input := inp' }) rfl rfl rfl rfl]
  cases scan cfg _ s st.iter st with
  | act a st1 => exact (callAction_input cfg inp' hI a st1).symm
  | _ => rfl

/-- The stream is a function of the lexer state: the items after `m` calls are those of the state
reached after `m` calls (a clone taken there continues identically). -/
theorem runN_add (cfg : Config σ τ ε) (m n : Nat) (st : LState σ) (h : ∀ x ∈ (runN cfg m st).1, x ≠ none) :
    runN cfg (m + n) st = ((runN cfg m st).1 ++ (runN cfg n (runN cfg m st).2).1, (runN cfg n (runN cfg m st).2).2) := by
  induction m generalizing st with
  | zero =>
    rw [Nat.zero_add]
    rfl
  | succ m ih =>
    cases hn : next cfg st with
    | none =>
      rw [runN_succ_none cfg m st hn] at h
      exact absurd rfl (h none (List.mem_singleton.2 rfl))
    | some r =>
      obtain ⟨item, st1⟩ := r
      have e1 := runN_succ_some cfg m st item st1 hn
      have e2 : runN cfg (m + 1 + n) st =
          (some item :: (runN cfg (m + n) st1).1, (runN cfg (m + n) st1).2) := by
        rw [Nat.add_right_comm m 1 n]
        exact runN_succ_some cfg (m + n) st item st1 hn
      rw [e1] at h
      have ih' := ih st1 (fun x hx => h x (List.mem_cons_of_mem _ hx))
      rw [e2, e1, ih']
      rfl

/-- A lexer over `n` characters yields at most `n + 1` items; no call runs out of fuel; the boundary
invariant holds throughout. -/
theorem runN_items_le (cfg : Config σ τ ε) (hm : MachineOK cfg) (st : LState σ) (hr : Ready cfg st) (n : Nat) :
    itemCount (runN cfg n st).1 ≤ st.iter.length + 1 ∧ (∀ x ∈ (runN cfg n st).1, x ≠ none) ∧ Ready cfg (runN cfg n st).2 :=
  (runN_items_aux cfg hm n st hr).2

end Lexgen
