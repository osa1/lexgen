import LexgenModel.Proofs.SpecRun
import LexgenModel.Proofs.RefRefine
import LexgenModel.Proofs.NextEqSpecErr
/-!
# The model of the generated `next()` computes the executable specification `specNext`

`specLoop_of_spec`: every step of the machine-level reference `NextSpec` is the branch `specLoop` takes, with the same
result, given what `EntryPack` says of every entry state (`entryPack_of_isEntry`). `next_eq_specNext` puts the two together.
-/
namespace Lexgen
variable {σ τ ε : Type}

namespace NextEqSpec

/-- what the loop needs to know about an entry state -/
def EntryPack (items : LexerDef) (ctxAt : Nat → Regex) (cfg : Config σ τ ε) (e : Nat) : Prop :=
  ∃ x rules, activeSet items cfg (renumber cfg.inl e) = some x ∧
    coreRules x.2.1 x.2.2.1 x.2.2.2 = some rules ∧
    (∀ iter n a v, Cand cfg e iter n a v ↔ LangCand rules ctxAt iter n a v) ∧
    EntryExt cfg.dfa e rules ∧ (∀ r ∈ rules, NoEmptyPieces r.re)

theorem entryPack_of_isEntry (items : LexerDef) (c : Compiled) (h : compileLexer items = .ok c) (hok : DefOK items)
    (hne : DefNE items) (ctxAt : Nat → Regex) (hnum : CtxNumbering items ctxAt)
    (actions : Nat → Action σ τ ε) (width : Nat → Nat) (input : Option (List Nat))
    (e0 : Nat) (he0 : IsEntry (c.config actions width input) e0) :
    EntryPack items ctxAt (c.config actions width input) e0 := by
  obtain ⟨name, rs, b, k, rules, hact, hmem, hent, hcore, hiff⟩ :=
    RefRefine.entry_ruleSet items c h hok ctxAt hnum actions width input e0 he0
  obtain ⟨e2, rules', hent2, hcore', hE⟩ := compile_ext items c h name rs b k hmem
  obtain rfl := isEntryOf_unique h hent hent2
  obtain rfl := Option.some.inj (hcore.symm.trans hcore')
  have hnep := hne name rs b k hmem rules hcore
  exact ⟨_, rules, hact, hcore, hiff, hE ⟨hok.rules name rs b k hmem rules hcore, hnep⟩, hnep⟩

/-- `EntryPack` for the inputs `P` only. The loop needs it for the prefixes and suffixes of the input it reads; with
`P` the words over code points `≤ charMax` it also holds of a machine that is only bisimilar to the compiled one
(`DumpedMachine.lean`), since bisimilarity says nothing about larger code points. -/
def EntryPackOn (P : List Nat → Prop) (items : LexerDef) (ctxAt : Nat → Regex) (cfg : Config σ τ ε) (e : Nat) :
    Prop :=
  ∃ x rules, activeSet items cfg (renumber cfg.inl e) = some x ∧
    coreRules x.2.1 x.2.2.1 x.2.2.2 = some rules ∧
    (∀ iter, P iter → ∀ n a v, Cand cfg e iter n a v ↔ LangCand rules ctxAt iter n a v) ∧
    (∀ w, P w → w ≠ [] → ((∃ t, reach cfg.dfa (.st e) w = some (.st t)) ↔ Extendable rules w)) ∧
    (∀ r ∈ rules, NoEmptyPieces r.re)

theorem EntryPack.on {items : LexerDef} {ctxAt : Nat → Regex} {cfg : Config σ τ ε} {e : Nat}
    (h : EntryPack items ctxAt cfg e) (P : List Nat → Prop) : EntryPackOn P items ctxAt cfg e :=
  let ⟨x, rules, h1, h2, h3, h4, h5⟩ := h
  ⟨x, rules, h1, h2, fun iter _ => h3 iter, fun w _ => h4 w, h5⟩

theorem fuel_after_match {len k f : Nat} (h : len + 2 ≤ f + 1) (hk : 0 < k) (hle : k ≤ len) : len - k + 2 ≤ f :=
  Nat.le_trans (Nat.add_le_add_right (Nat.sub_lt (Nat.lt_of_lt_of_le hk hle) hk) 1) (Nat.le_of_succ_le_succ h)

/-- Every step of the machine-level reference `NextSpec` from a lexeme start is the step `specLoop` computes,
given enough fuel. The entry-level facts are needed only for a set `P` of inputs that is closed under taking
prefixes and suffixes: the loop never looks at anything else. -/
theorem specLoop_of_spec (P : List Nat → Prop) (htake : ∀ w k, P w → P (w.take k)) (hdrop : ∀ w k, P w → P (w.drop k))
    (items : LexerDef) (ctxAt : Nat → Regex) (cfg : Config σ τ ε) (hm : MachineOK cfg)
    (HE : ∀ e, IsEntry cfg e → EntryPackOn P items ctxAt cfg e)
    {st : LState σ} {r : Option (Item τ ε) × LState σ} (h : NextSpec cfg st r) :
    Ready cfg st → P st.iter → ∀ fuel, (st.done = false → st.iter.length + 2 ≤ fuel) →
      specLoop items cfg ctxAt fuel st = some r := by
  -- the rule set `activeSet` finds when the arm `s` is selected
  have hpack : ∀ {st : LState σ} {s : Nat}, Ready cfg st →
      dispatch (stateArms cfg.dfa cfg.inl) st.state = some s →
      ∃ x rules, activeSet items cfg st.initial = some x ∧ coreRules x.2.1 x.2.2.1 x.2.2.2 = some rules ∧
        (∀ iter, P iter → ∀ n a v, Cand cfg s iter n a v ↔ LangCand rules ctxAt iter n a v) ∧
        (∀ w, P w → w ≠ [] → ((∃ t, reach cfg.dfa (.st s) w = some (.st t)) ↔ Extendable rules w)) ∧
        (∀ r ∈ rules, NoEmptyPieces r.re) := by
    intro st s hr hs
    obtain ⟨he, hst⟩ := ready_arm hm hr hs
    rw [← hr.2.1, hst]
    exact HE s he
  have hfuel : ∀ {st : LState σ} {fuel : Nat}, st.done = false → (st.done = false → st.iter.length + 2 ≤ fuel) →
      ∃ f, fuel = f + 1 := fun {_ fuel} hd hf =>
    ⟨fuel - 1, (Nat.sub_add_cancel (Nat.le_trans (Nat.le_add_left 1 _) (hf hd))).symm⟩
  induction h with
  | done hd => exact fun _ _ fuel _ => specLoop_done items cfg ctxAt fuel _ hd
  | @ret st s k a e item st' hd hs hb hc =>
    intro hr hP fuel hf
    obtain ⟨f, rfl⟩ := hfuel hd hf
    obtain ⟨x, rules, hact, hcore, hiff, _, _⟩ := hpack hr hs
    have hsel := (selectRef_some rules ctxAt st.iter k a e).mpr (hb.selects (hiff _ hP))
    rw [specLoop_selected items cfg ctxAt f st x rules k a e hd hact hcore hsel, hc]
  | @cont st s k a e st1 r hd hs hb hc _ ih =>
    intro hr hP fuel hf
    obtain ⟨f, rfl⟩ := hfuel hd hf
    obtain ⟨x, rules, hact, hcore, hiff, _, _⟩ := hpack hr hs
    have hsel := (selectRef_some rules ctxAt st.iter k a e).mpr (hb.selects (hiff _ hP))
    rw [specLoop_selected items cfg ctxAt f st x rules k a e hd hact hcore hsel, hc]
    have hr1 := ready_of_cont hm hr hs hc
    obtain ⟨_, rfl⟩ := callAction_cont hc
    refine ih hr1 (hdrop _ k hP) f fun (he : e = false) => ?_
    -- a match that does not go through `$` consumes at least one character
    have hk := (hb.progress (NextProtocol.isEntry_props cfg hm s (ready_arm hm hr hs).1).2.2).resolve_right (he ▸ Bool.false_ne_true)
    show (st.iter.drop k).length + 2 ≤ f
    rw [List.length_drop]
    exact fuel_after_match (hf hd) hk hb.1.1
  | @invalid st s hd hs hno hne =>
    intro hr hP fuel hf
    obtain ⟨f, rfl⟩ := hfuel hd hf
    obtain ⟨x, rules, hact, hcore, hiff, hExt, hnep⟩ := hpack hr hs
    obtain ⟨he, hst⟩ := ready_arm hm hr hs
    have hsel := (selectRef_none rules ctxAt st.iter).mpr (hno.lang (hiff _ hP))
    rw [specLoop_unselected items cfg ctxAt f st x rules hd hact hcore hsel,
      if_neg fun ⟨hnil, hz⟩ => hne ⟨RefRefine.entry_of_state_zero cfg hm s he (hst ▸ hz), hnil⟩,
      errSt_eq_errState cfg (rules.map (·.re)) s st
        (errAdvance_eq_take rules hnep cfg.dfa s st.iter fun j hj hle =>
          hExt _ (htake _ j hP) (take_ne_nil hj hle))]
  | @eof st hd hs hno hnil =>
    intro hr hP fuel hf
    obtain ⟨f, rfl⟩ := hfuel hd hf
    obtain ⟨x, rules, hact, hcore, hiff, _, _⟩ := hpack hr hs
    have hsel := (selectRef_none rules ctxAt st.iter).mpr (hno.lang (hiff _ hP))
    rw [specLoop_unselected items cfg ctxAt f st x rules hd hact hcore hsel,
      if_pos ⟨hnil, (ready_arm hm hr hs).2.trans (NextProtocol.renumber_zero _)⟩]

theorem nextLoop_eq_specLoop_on (P : List Nat → Prop) (htake : ∀ w k, P w → P (w.take k))
    (hdrop : ∀ w k, P w → P (w.drop k)) (items : LexerDef) (ctxAt : Nat → Regex) (cfg : Config σ τ ε)
    (hm : MachineOK cfg) (HE : ∀ e, IsEntry cfg e → EntryPackOn P items ctxAt cfg e)
    (fuel : Nat) (st : LState σ) (hr : Ready cfg st) (hP : P st.iter) (hf : st.iter.length + 2 ≤ fuel) :
    nextLoop cfg fuel st = specLoop items cfg ctxAt fuel st := by
  obtain ⟨r, h⟩ := nextLoop_total hm fuel st hr (Nat.lt_of_lt_of_le (Nat.lt_add_of_pos_right (Nat.succ_pos 1)) hf)
    (fun _ => hf)
  rw [h, specLoop_of_spec P htake hdrop items ctxAt cfg hm HE (nextLoop_spec hm fuel st r hr.1 h) hr hP fuel
    fun _ => hf]

theorem nextLoop_eq_specLoop (items : LexerDef) (ctxAt : Nat → Regex) (cfg : Config σ τ ε)
    (hm : MachineOK cfg) (HE : ∀ e, IsEntry cfg e → EntryPack items ctxAt cfg e)
    (fuel : Nat) (st : LState σ) (hr : Ready cfg st) (hf : st.iter.length + 2 ≤ fuel) :
    nextLoop cfg fuel st = specLoop items cfg ctxAt fuel st :=
  nextLoop_eq_specLoop_on (fun _ => True) (fun _ _ _ => trivial) (fun _ _ _ => trivial) items ctxAt cfg hm
    (fun e he => (HE e he).on _) fuel st hr trivial hf

end NextEqSpec

/-- **Capstone.** For every well-formed definition (`DefOK`) without empty pieces (`DefNE`: no empty class, no empty string literal) that the model of
`lexer()` compiles, every call of the model of the generated `next()` — the simplified DFA with backtrack elision, inlined states and state numbering,
right-context functions, saved matches and rewinds, `lexgen_util::Lexer` — from a lexer state at a lexeme start returns EXACTLY what the executable
reference lexer `specNext` returns: same item, same state. `specNext` works on the definition itself (Brzozowski derivatives of its regexes, maximal munch
with first-rule priority `selectRef = Selects`, the semantic-action protocol, the error-resume rule "longest viable prefix plus the offending character")
and is sound w.r.t. the relational specification `RefNext` (`specNext_sound`). -/
theorem next_eq_specNext (items : LexerDef) (c : Compiled) (h : compileLexer items = .ok c) (hok : DefOK items) (hne : DefNE items)
    (actions : Nat → Action σ τ ε) (width : Nat → Nat) (input : Option (List Nat))
    (st : LState σ) (hr : Ready (c.config actions width input) st) :
    next (c.config actions width input) st = specNextFull items (c.config actions width input) st :=
  NextEqSpec.nextLoop_eq_specLoop items (specCtxAt items) (c.config actions width input)
    (compileLexer_machineOK items c h hok actions width input)
    (fun e he => NextEqSpec.entryPack_of_isEntry items c h hok hne (specCtxAt items) (specCtxAt_numbering items)
      actions width input e he)
    _ st hr (Nat.le_refl _)

end Lexgen
