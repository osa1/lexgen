import LexgenModel.Proofs.RangeMap
/-!
# Values stored in a range map

`insert` and `insertRanges` only store old values, the inserted ones, and merges of the two, so they
preserve `AllV P` when `merge` does; no well-formedness of the maps is involved. The namespace is that
of the main user, the shape invariant of `Proofs/NfaShape.lean`.
-/
namespace Lexgen
namespace NfaShape

section RangeMapValues
variable {α : Type}

def AllV (P : α → Prop) (m : RangeMap α) : Prop := ∀ r ∈ m, P r.2.2

theorem allV_nil (P : α → Prop) : AllV P ([] : RangeMap α) := fun r hr => by cases hr

theorem allV_cons {P : α → Prop} {s e : Nat} {x : α} {m : RangeMap α} :
    AllV P ((s, e, x) :: m) ↔ P x ∧ AllV P m :=
  List.forall_mem_cons

theorem allV_mapVals {β : Type} {P : β → Prop} (f : α → β) (m : RangeMap α) (h : ∀ x, P (f x)) :
    AllV P (RangeMap.mapVals f m) := by
  intro r hr
  unfold RangeMap.mapVals at hr
  obtain ⟨r0, _, rfl⟩ := List.mem_map.mp hr
  exact h _

theorem insertAux_allV (merge : α → α → α) (P : α → Prop) (v : α) (hv : P v)
    (hm : ∀ x, P x → P (merge x v)) (l : RangeMap α) :
    ∀ (lastEnd : Option Nat) (ns ne : Nat), AllV P l → AllV P (RangeMap.insertAux merge l lastEnd ns ne v) := by
  intro lastEnd ns ne hl r hr
  rcases (RangeMap.mem_insertAux hr).1 with h | ⟨q, hq, h | h⟩ <;> rw [h]
  · exact hv
  · exact hl q hq
  · exact hm _ (hl q hq)

theorem insertRanges_allV (merge : α → α → α) (P : α → Prop) (hm : ∀ x y, P x → P y → P (merge x y))
    (l1 l2 : RangeMap α) : AllV P l1 → AllV P l2 → AllV P (RangeMap.insertRanges merge l1 l2) := by
  -- a head whose end points were cut keeps its value: `allV_cons` does not look at the end points
  fun_induction RangeMap.insertRanges merge l1 l2 with
  | case1 => intro _ _; exact allV_nil P
  | case2 => intro h _; exact h
  | case3 => intro _ h; exact h
  | case4 s1 e1 v1 rest1 s2 e2 v2 rest2 h ih =>
    intro h1 h2
    exact allV_cons.mpr ⟨(allV_cons.mp h1).1, ih (allV_cons.mp h1).2 h2⟩
  | case5 s1 e1 v1 rest1 s2 e2 v2 rest2 h h' ih =>
    intro h1 h2
    exact allV_cons.mpr ⟨(allV_cons.mp h2).1, ih h1 (allV_cons.mp h2).2⟩
  | case6 s1 e1 v1 rest1 s2 e2 v2 rest2 h h' os h'' ih =>
    intro h1 h2
    exact allV_cons.mpr ⟨(allV_cons.mp h1).1, ih (allV_cons.mpr (allV_cons.mp h1)) h2⟩
  | case7 s1 e1 v1 rest1 s2 e2 v2 rest2 h h' os h'' h3 ih =>
    intro h1 h2
    exact allV_cons.mpr ⟨(allV_cons.mp h2).1, ih h1 (allV_cons.mpr (allV_cons.mp h2))⟩
  | case8 s1 e1 v1 rest1 s2 e2 v2 rest2 h h' os oe h'' h3 merged h4 ih =>
    intro h1 h2
    exact allV_cons.mpr ⟨hm _ _ (allV_cons.mp h1).1 (allV_cons.mp h2).1,
      ih (allV_cons.mp h1).2 (allV_cons.mpr (allV_cons.mp h2))⟩
  | case9 s1 e1 v1 rest1 s2 e2 v2 rest2 h h' os oe h'' h3 merged h4 h5 ih =>
    intro h1 h2
    exact allV_cons.mpr ⟨hm _ _ (allV_cons.mp h1).1 (allV_cons.mp h2).1,
      ih (allV_cons.mpr (allV_cons.mp h1)) (allV_cons.mp h2).2⟩
  | case10 s1 e1 v1 rest1 s2 e2 v2 rest2 h h' os oe h'' h3 merged h4 h5 ih =>
    intro h1 h2
    exact allV_cons.mpr ⟨hm _ _ (allV_cons.mp h1).1 (allV_cons.mp h2).1,
      ih (allV_cons.mp h1).2 (allV_cons.mp h2).2⟩

end RangeMapValues

theorem allV_mono {α : Type} {P Q : α → Prop} {m : RangeMap α} (h : AllV P m) (hpq : ∀ x, P x → Q x) : AllV Q m :=
  fun r hr => hpq _ (h r hr)

end NfaShape
end Lexgen
