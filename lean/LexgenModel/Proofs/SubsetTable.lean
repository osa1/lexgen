import LexgenModel.Proofs.SubsetExpand
/-!
# Subset construction: the table `expandState` leaves in the expanded state
-/
namespace Lexgen.Subset
open Lexgen

/-- the targets merged into a char transition: its own, those of the covering ranges, and `_` -/
theorem covFold_mem (c : Nat) (R : RangeMap (List Nat)) (t0 : List Nat) (t : Nat) :
    t ∈ R.foldl (fun t r => if r.1 ≤ c ∧ c ≤ r.2.1 then setUnion t r.2.2 else t) t0 ↔
      t ∈ t0 ∨ ∃ r ∈ R, r.1 ≤ c ∧ c ≤ r.2.1 ∧ t ∈ r.2.2 := by
  induction R generalizing t0 with
  | nil => exact ⟨Or.inl, fun h => h.elim id fun ⟨_, h, _⟩ => nomatch h⟩
  | cons r R ih =>
    rw [List.foldl_cons, ih]
    simp only [List.mem_cons, exists_eq_or_imp]
    by_cases hc : r.1 ≤ c ∧ c ≤ r.2.1
    · rw [if_pos hc, mem_setUnion, or_assoc]
      simp only [hc.1, hc.2, true_and]
    · rw [if_neg hc]
      have : ¬ (r.1 ≤ c ∧ c ≤ r.2.1 ∧ t ∈ r.2.2) := fun h => hc ⟨h.1, h.2.1⟩
      simp only [this, false_or]

theorem mem_ctg (col : Collected) (e : Nat × List Nat) (t : Nat) :
    t ∈ ctg col e ↔ t ∈ e.2 ∨ (∃ r ∈ col.ranges, r.1 ≤ e.1 ∧ e.1 ≤ r.2.1 ∧ t ∈ r.2.2) ∨ t ∈ col.any := by
  unfold ctg
  rw [mem_setUnion, covFold_mem, or_assoc]

theorem ctg_ne_nil (col : Collected) (e : Nat × List Nat) (h : e.2 ≠ []) : ctg col e ≠ [] := by
  obtain ⟨t, ht⟩ := List.exists_mem_of_ne_nil _ h
  exact List.ne_nil_of_mem ((mem_ctg col e t).mpr (Or.inl ht))

theorem keyOK_closure {nfa : NFA} (hwf : NFAWF nfa) {S : List Nat} (h : S ≠ []) : KeyOK (nfa.closure S) :=
  ⟨ascending_closure hwf S, closure_ne_nil hwf h⟩

/-- entry of the DFA char table for the collected entry `e` -/
def CR (nfa : NFA) (col : Collected) (sm : List (List Nat × Nat)) (e : Nat × List Nat) (q : Nat × Nat) : Prop :=
  q.1 = e.1 ∧ (nfa.closure (ctg col e), q.2) ∈ sm

/-- entry of the DFA range table for the collected range `r` -/
def RR (nfa : NFA) (col : Collected) (sm : List (List Nat × Nat)) (r : Nat × Nat × List Nat)
    (q : Nat × Nat × Nat) : Prop :=
  q.1 = r.1 ∧ q.2.1 = r.2.1 ∧ (nfa.closure (setUnion r.2.2 col.any), q.2.2) ∈ sm

/-- the `any` / end-of-input slot for the collected targets `tg` -/
def OptOK (nfa : NFA) (sm : List (List Nat × Nat)) (tg : List Nat) (o : Option Nat) : Prop :=
  (nfa.closure tg = [] ∧ o = none) ∨ (nfa.closure tg ≠ [] ∧ ∃ t, o = some t ∧ (nfa.closure tg, t) ∈ sm)

section
variable {nfa : NFA} {sm : List (List Nat × Nat)} {tg : List Nat} {o : Option Nat}

theorem OptOK.mono {sm' : List (List Nat × Nat)} (h : OptOK nfa sm tg o) (hs : ∀ e ∈ sm, e ∈ sm') : OptOK nfa sm' tg o := by
  rcases h with h | ⟨h1, t, h2, h3⟩
  · exact Or.inl h
  · exact Or.inr ⟨h1, t, h2, hs _ h3⟩

theorem OptOK.weak (h : OptOK nfa sm tg o) : (nfa.closure tg = [] ∧ o = none) ∨ ∃ t, o = some t ∧ (nfa.closure tg, t) ∈ sm :=
  h.imp id fun h => h.2

theorem OptOK.key_of_some {t : Nat} (h : OptOK nfa sm tg o) (ho : o = some t) : (nfa.closure tg, t) ∈ sm := by
  rcases h with ⟨_, h2⟩ | ⟨_, t', h2, h3⟩
  · exact nomatch h2.symm.trans ho
  · exact Option.some.inj (h2.symm.trans ho) ▸ h3

theorem OptOK.none_iff (hwf : NFAWF nfa) (h : OptOK nfa sm tg o) : o = none ↔ tg = [] := by
  rcases h with ⟨h1, h2⟩ | ⟨h1, t, h2, _⟩
  · exact ⟨fun _ => closure_eq_nil hwf h1, fun _ => h2⟩
  · exact ⟨fun hn => (nomatch h2.symm.trans hn), fun hn => absurd (hn ▸ closure_nil nfa) h1⟩

theorem OptOK.mem_toList (h : OptOK nfa sm tg o) (hinj : ∀ k i j, (k, i) ∈ sm → (k, j) ∈ sm → i = j) {t : Nat} :
    t ∈ o.toList ↔ nfa.closure tg ≠ [] ∧ (nfa.closure tg, t) ∈ sm := by
  rw [Option.mem_toList]
  rcases h with ⟨h1, rfl⟩ | ⟨h1, t', rfl, h2⟩
  · exact ⟨fun h => (nomatch h), fun h => absurd h1 h.1⟩
  · exact ⟨fun h => Option.some.inj h ▸ ⟨h1, h2⟩, fun h => congrArg some (hinj _ _ _ h2 h.2)⟩

end

/-- the table of the expanded state in terms of the collected data and the final state map -/
structure DTable (nfa : NFA) (col : Collected) (sm : List (List Nat × Nat)) (s : DState Nat) : Prop where
  chars : Rel₂ (CR nfa col sm) col.chars s.chars
  ranges : Rel₂ (RR nfa col sm) col.ranges s.ranges
  any : OptOK nfa sm col.any s.any
  eoi : OptOK nfa sm col.eoi s.eoi
  acc : s.accepting = col.accs

theorem DTable.congr {nfa : NFA} {col : Collected} {sm sm' : List (List Nat × Nat)} {st st' : DState Nat}
    (h : DTable nfa col sm st) (ht : TEq st' st) (hs : ∀ e ∈ sm, e ∈ sm') : DTable nfa col sm' st' :=
  ⟨ht.chars ▸ h.chars.imp fun _ _ _ h => ⟨h.1, hs _ h.2⟩,
    ht.ranges ▸ h.ranges.imp fun _ _ _ h => ⟨h.1, h.2.1, hs _ h.2.2⟩,
    ht.any ▸ h.any.mono hs, ht.eoi ▸ h.eoi.mono hs, ht.acc.trans h.acc⟩

/-! ## the stages

Each stage lemma carries `Mid` and the table `T` that state `d` has so far (`TEq (b.dfa.st d) T`);
the entries written so far are related to the collected ones w.r.t. the current state map, which
only grows. No stage needs anything of the NFA. -/

theorem acceptStage_spec {b : Builder} {d : Nat} (hb : WFB b) (hd : d < b.dfa.length)
    (hemp : TEq (b.dfa.st d) DState.empty) (col : Collected) :
    Mid b d (acceptStage b d col) [] ∧
    TEq ((acceptStage b d col).dfa.st d) { (DState.empty : DState Nat) with accepting := col.accs } := by
  constructor
  · refine mid_setdfa (mid_refl b d hb) _ (List.length_modify _ _ _) (fun i hi => ?_)
      (initial_modify _ _ fun _ => by rfl) (fun s p h => Or.inl (mem_preds_modify (fun _ => by rfl) h))
    rw [dst_modify_ne _ _ (Ne.symm hi)]; exact TEq.rfl' _
  · show TEq (DFA.st (b.dfa.modify d _) d) _
    rw [dst_modify_eq _ _ hd]
    exact ⟨hemp.chars, hemp.ranges, hemp.any, hemp.eoi, rfl⟩

theorem charsStage_spec (nfa : NFA) (col : Collected) {b0 b1 : Builder} {d : Nat} (hd : d < b0.dfa.length)
    (hm : Mid b0 d b1 []) {T : DState Nat} (ht : TEq (b1.dfa.st d) T) (hT : T.chars = []) :
    ∃ Q, Mid b0 d (charsStage nfa col d b1).1 (charsStage nfa col d b1).2 ∧
      TEq ((charsStage nfa col d b1).1.dfa.st d) { T with chars := Q } ∧
      Rel₂ (CR nfa col (charsStage nfa col d b1).1.stateMap) col.chars Q := by
  refine foldl_inv (charStep nfa col d)
    (fun acc L => ∃ Q, Mid b0 d acc.1 acc.2 ∧ TEq (acc.1.dfa.st d) { T with chars := Q } ∧
      Rel₂ (CR nfa col acc.1.stateMap) L Q)
    col.chars (b1, []) ⟨[], hm, hT ▸ ht, .nil⟩ ?_
  rintro acc L e - ⟨Q, im, it, ir⟩
  obtain ⟨m1, m2, m3, m4⟩ := mid_link im hd (nfa.closure (ctg col e))
    (fun t st => { st with chars := st.chars ++ [(e.1, t)] }) (fun _ _ => ⟨rfl, rfl⟩)
  refine ⟨Q ++ [(e.1, (acc.1.stateOf (nfa.closure (ctg col e))).2)], m1, m4.trans ?_,
    (ir.imp fun a q _ h => ⟨h.1, m3 _ h.2⟩).snoc ⟨rfl, m2⟩⟩
  exact ⟨congrArg (· ++ _) it.chars, it.ranges, it.any, it.eoi, it.acc⟩

theorem rangesStage_spec (nfa : NFA) (col : Collected) {b0 : Builder} {d : Nat}
    {a2 : Builder × List (List Nat)} (hm : Mid b0 d a2.1 a2.2) :
    Mid b0 d (rangesStage nfa col a2).1 (rangesStage nfa col a2).2.1 ∧
    Rel₂ (RR nfa col (rangesStage nfa col a2).1.stateMap) col.ranges (rangesStage nfa col a2).2.2 ∧
    (∀ e ∈ a2.1.stateMap, e ∈ (rangesStage nfa col a2).1.stateMap) ∧
    (∀ i, (rangesStage nfa col a2).1.dfa.st i = a2.1.dfa.st i) ∧
    (∀ q ∈ (rangesStage nfa col a2).2.2, ∃ k ∈ (rangesStage nfa col a2).2.1, (k, q.2.2) ∈ (rangesStage nfa col a2).1.stateMap) := by
  refine foldl_inv (rangeStep nfa col)
    (fun acc L => Mid b0 d acc.1 acc.2.1 ∧ Rel₂ (RR nfa col acc.1.stateMap) L acc.2.2 ∧
      (∀ e ∈ a2.1.stateMap, e ∈ acc.1.stateMap) ∧ (∀ i, acc.1.dfa.st i = a2.1.dfa.st i) ∧
      (∀ q ∈ acc.2.2, ∃ k ∈ acc.2.1, (k, q.2.2) ∈ acc.1.stateMap))
    col.ranges (a2.1, a2.2, []) ⟨hm, .nil, fun _ h => h, fun _ => rfl, fun _ h => nomatch h⟩ ?_
  rintro acc L r - ⟨im, ir, i3, i4, i5⟩
  obtain ⟨m1, m2, m3, m4⟩ := mid_stateOf im (nfa.closure (setUnion r.2.2 col.any))
  refine ⟨m1, (ir.imp fun a q _ h => ⟨h.1, h.2.1, m3 _ h.2.2⟩).snoc ⟨rfl, rfl, m2⟩,
    fun e he => m3 e (i3 e he), fun i => (m4 i).trans (i4 i), fun q hq => ?_⟩
  rcases List.mem_append.mp hq with h | h
  · exact (i5 q h).imp fun k hk => ⟨List.mem_cons_of_mem _ hk.1, m3 _ hk.2⟩
  · exact List.mem_singleton.mp h ▸ ⟨_, List.mem_cons_self, m2⟩

theorem rangeTableStage_spec {b0 : Builder} {d : Nat} (hd : d < b0.dfa.length)
    {a3 : Builder × List (List Nat) × RangeMap Nat} (hm : Mid b0 d a3.1 a3.2.1)
    (hq : ∀ q ∈ a3.2.2, ∃ k ∈ a3.2.1, (k, q.2.2) ∈ a3.1.stateMap) {T : DState Nat}
    (ht : TEq (a3.1.dfa.st d) T) :
    Mid b0 d (rangeTableStage d a3) a3.2.1 ∧ TEq ((rangeTableStage d a3).dfa.st d) { T with ranges := a3.2.2 } := by
  obtain ⟨hl, hp⟩ := predsFold_spec d a3.2.2 a3.1.dfa (rangePreds d a3) rfl
  constructor
  · refine mid_setdfa hm _ ((List.length_modify _ _ _).trans hl) (fun i hi => ?_)
      (fun i => (initial_modify _ _ (fun _ => by rfl) i).trans (hp i).2.1)
      (fun s p h => ((hp s).2.2 p (mem_preds_modify (fun _ => by rfl) h)).imp_right
        fun ⟨e1, q, hq', e2⟩ => ⟨e1, e2 ▸ hq q hq'⟩)
    rw [dst_modify_ne _ _ (Ne.symm hi)]; exact (hp i).1
  · show TEq (DFA.st ((rangePreds d a3).modify d _) d) _
    rw [dst_modify_eq _ _ (hl ▸ Nat.lt_of_lt_of_le hd hm.len)]
    have := (hp d).1.trans ht
    exact ⟨this.chars, rfl, this.any, this.eoi, this.acc⟩

/-- `T o` is the table with the slot in question set to `o`; `upd t` sets it to `some t`. -/
theorem optStage (nfa : NFA) {b0 : Builder} {d : Nat} (hd : d < b0.dfa.length) (tg : List Nat)
    (upd : Nat → DState Nat → DState Nat) {b : Builder} {p : List (List Nat)} (hm : Mid b0 d b p)
    (T : Option Nat → DState Nat) (hupd : ∀ t s, TEq s (T none) → TEq (upd t s) (T (some t)))
    (hini : ∀ t s, (upd t s).initial = s.initial ∧ (upd t s).preds = s.preds)
    (ht : TEq (b.dfa.st d) (T none)) :
    ∃ o, Mid b0 d (optStep nfa d tg upd (b, p)).1 (optStep nfa d tg upd (b, p)).2 ∧
      TEq ((optStep nfa d tg upd (b, p)).1.dfa.st d) (T o) ∧
      OptOK nfa (optStep nfa d tg upd (b, p)).1.stateMap tg o ∧
      (∀ e ∈ b.stateMap, e ∈ (optStep nfa d tg upd (b, p)).1.stateMap) := by
  unfold optStep
  by_cases he : nfa.closure tg = []
  · rw [if_pos (by rw [he]; rfl)]
    exact ⟨none, hm, ht, Or.inl ⟨he, rfl⟩, fun _ h => h⟩
  · rw [if_neg (fun h => he (List.isEmpty_iff.mp h))]
    obtain ⟨m1, m2, m3, m4⟩ := mid_link hm hd (nfa.closure tg) upd hini
    exact ⟨some _, m1, m4.trans (hupd _ _ ht), Or.inr ⟨he, _, rfl, m2⟩, m3⟩

/-- What one expansion does, for every NFA: the builder stays well-formed, old entries and the
tables of the other states are kept, new entries are for pushed closures, and state `d` gets the
table of the collected data. -/
theorem expand_table (nfa : NFA) {b : Builder} {d : Nat} (cur : List Nat) (hb : WFB b)
    (hd : d < b.dfa.length) (hemp : TEq (b.dfa.st d) DState.empty) :
    Mid b d (expandState nfa b d cur).1 (expandState nfa b d cur).2 ∧
    DTable nfa (collect nfa cur) (expandState nfa b d cur).1.stateMap ((expandState nfa b d cur).1.dfa.st d) := by
  rw [expandState_eqC]
  generalize collect nfa cur = col
  obtain ⟨m1, t1⟩ := acceptStage_spec hb hd hemp col
  obtain ⟨Q, m2, t2, r2⟩ := charsStage_spec nfa col hd m1 t1 rfl
  obtain ⟨m3, r3, s3, e3, q3⟩ := rangesStage_spec nfa col m2
  obtain ⟨m4, t4⟩ := rangeTableStage_spec hd m3 q3 ((e3 d).symm ▸ t2)
  obtain ⟨o5, m5, t5, k5, s5⟩ := optStage nfa hd col.any (fun t st => { st with any := some t }) m4
    (fun o => { chars := Q, ranges := (rangesStage nfa col (charsStage nfa col d (acceptStage b d col))).2.2, any := o,
                accepting := col.accs })
    (fun t s h => ⟨h.chars, h.ranges, rfl, h.eoi, h.acc⟩) (fun _ _ => ⟨rfl, rfl⟩) t4
  obtain ⟨o6, m6, t6, k6, s6⟩ := optStage nfa hd col.eoi (fun t st => { st with eoi := some t }) m5
    (fun o => { chars := Q, ranges := (rangesStage nfa col (charsStage nfa col d (acceptStage b d col))).2.2, any := o5, eoi := o,
                accepting := col.accs })
    (fun t s h => ⟨h.chars, h.ranges, h.any, rfl, h.acc⟩) (fun _ _ => ⟨rfl, rfl⟩) t5
  refine ⟨m6, DTable.congr ⟨?_, ?_, k5.mono s6, k6, rfl⟩ t6 fun _ h => h⟩
  · exact r2.imp fun a q _ h => ⟨h.1, s6 _ (s5 _ (s3 _ h.2))⟩
  · exact r3.imp fun a q _ h => ⟨h.1, h.2.1, s6 _ (s5 _ h.2.2)⟩

/-! ## the pushed closures are closures of transition targets

A property of all targets of non-ε transitions that ε-steps preserve — being a state, not being
state 0 — therefore holds of the members of every key but the initial one. -/

/-- `t` is the target of some non-ε transition of the NFA (`NfaShape.STgt` without the ε-clause, for
some state) -/
def IsTgt (n : NFA) (t : Nat) : Prop :=
  ∃ s, t ∈ (n.st s).any ∨ t ∈ (n.st s).eoi ∨ (∃ e ∈ (n.st s).chars, t ∈ e.2) ∨
    (∃ r ∈ (n.st s).ranges, t ∈ r.2.2)

theorem ColSpec.tgt {nfa : NFA} {S : List Nat} {col : Collected} (hcs : ColSpec nfa S col) :
    (∀ t ∈ col.any, IsTgt nfa t) ∧ (∀ t ∈ col.eoi, IsTgt nfa t) ∧
    (∀ e ∈ col.chars, ∀ t ∈ e.2, IsTgt nfa t) ∧ (∀ r ∈ col.ranges, ∀ t ∈ r.2.2, IsTgt nfa t) := by
  refine ⟨fun t ht => ?_, fun t ht => ?_, fun e he t ht => ?_, fun r hr t ht => ?_⟩
  · obtain ⟨s, _, h⟩ := (hcs.any t).mp ht
    exact ⟨s, Or.inl h⟩
  · obtain ⟨s, _, h⟩ := (hcs.eoi t).mp ht
    exact ⟨s, Or.inr (Or.inl h)⟩
  · obtain ⟨s, _, tg, h1, h2⟩ := (hcs.mem_chars he t).mp ht
    exact ⟨s, Or.inr (Or.inr (Or.inl ⟨_, h1, h2⟩))⟩
  · obtain ⟨s, _, r', h1, _, _, h2⟩ := (hcs.mem_ranges hr t).mp ht
    exact ⟨s, Or.inr (Or.inr (Or.inr ⟨r', h1, h2⟩))⟩

theorem pushed_closure {nfa : NFA} {S : List Nat} {col : Collected} (hcs : ColSpec nfa S col) {k : List Nat}
    (hk : k ∈ pushedOf nfa col) : ∃ M : List Nat, (∀ m ∈ M, IsTgt nfa m) ∧ k = nfa.closure M := by
  obtain ⟨hany, heoi, hchars, hranges⟩ := hcs.tgt
  rcases mem_pushedOf.mp hk with ⟨rfl, _⟩ | ⟨rfl, _⟩ | ⟨r, hr, rfl⟩ | ⟨e, he, rfl⟩
  · exact ⟨_, heoi, rfl⟩
  · exact ⟨_, hany, rfl⟩
  · refine ⟨_, fun m hm => ?_, rfl⟩
    exact (mem_setUnion.mp hm).elim (hranges r hr m) (hany m)
  · refine ⟨_, fun m hm => ?_, rfl⟩
    rcases (mem_ctg col e m).mp hm with h1 | ⟨r, hr, _, _, h1⟩ | h1
    · exact hchars e he m h1
    · exact hranges r hr m h1
    · exact hany m h1

end Lexgen.Subset
