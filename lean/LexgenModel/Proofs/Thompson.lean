import LexgenModel.Spec.Lang
import LexgenModel.Proofs.ClassEval
import LexgenModel.Proofs.ThompsonGadget
import LexgenModel.Proofs.AddRe
/-!
# Thompson construction: `add_re` / `add_regex` build an NFA for the regex denotation

Main results: `Thompson.addRe_gadget` (the sub-automaton built by `addRe re cur cont` reads exactly
`den re` from `cur` to `cont` and leaves the rest of the NFA alone) and `addRegex_correct`.
-/

namespace Lexgen
namespace Thompson
open RangeMap

theorem regexPiecesOK_class (e : Regex) (h : regexPiecesOK e) : classPiecesOK e := by
  induction e with
  | set items => exact h
  | alt a b iha ihb | diff a b iha ihb => exact ⟨iha h.1, ihb h.2⟩
  | _ => trivial

theorem class_gadget {n : NFA} {cur cont : Nat} (hp : Pre n cur cont) (e : Regex) (m : RangeMap Unit)
    (hm : regexToRangeMap e = .ok m) (hpc : classPiecesOK e) :
    Gadget n (n.addRangeTransitions cur m cont) cur cont (fun w => ∃ c, w = [.ch c] ∧ classDen e c) := by
  have ⟨wm, lk⟩ := regexToRangeMap_spec builtinsWF e m hm hpc
  have st := step_addRanges n cur m cont hp.hcur wm hp.vcur.2.1
  refine (st.gadget hp (by rintro ⟨c, hc, _⟩; cases hc)).congrL (fun w => ?_)
  constructor
  · rintro ⟨y, rfl, c, hyc, hl⟩
    cases hyc
    exact ⟨c, rfl, (lk c).mp hl⟩
  · rintro ⟨c, rfl, hc⟩
    exact ⟨.ch c, rfl, c, rfl, (lk c).mpr hc⟩

theorem setLabel_cons (i : CharOrRange) (items : List CharOrRange) (x : Option Sym) :
    (∃ c, x = some (Sym.ch c) ∧ ∃ it ∈ i :: items, itemHas it c) ↔
      (∃ c, x = some (Sym.ch c) ∧ itemHas i c) ∨ ∃ c, x = some (Sym.ch c) ∧ ∃ it ∈ items, itemHas it c := by
  simp only [RangeMap.exists_mem_cons, and_or_left, exists_or]

theorem addSet_step (items : List CharOrRange) : ∀ (seen : List Nat) (cur cont : Nat) (n n' : NFA),
    cur < n.length → RangeMap.WF (n.st cur).ranges →
    (∀ it ∈ items, match it with | .chr _ => True | .rng s e => s ≤ e) →
    (∀ c ∈ seen, Edge n cur (some (Sym.ch c)) cont) →
    NFA.addSet items seen cur cont n = .ok n' →
    Step n n' cur (fun x => ∃ c, x = some (Sym.ch c) ∧ ∃ it ∈ items, itemHas it c) cont := by
  induction items with
  | nil =>
    intro seen cur cont n n' _ _ _ _ h
    cases h
    apply Step.skip
    rintro x ⟨c, _, it, hit, _⟩
    cases hit
  | cons it items ih =>
    intro seen cur cont n n' hcur hwf hok hseen h
    have hok' : ∀ it ∈ items, match it with | .chr _ => True | .rng s e => s ≤ e :=
      fun i hi => hok i (List.mem_cons_of_mem _ hi)
    cases it with
    | chr c =>
      have hc : ∀ x, x = some (Sym.ch c) ↔ ∃ c', x = some (Sym.ch c') ∧ itemHas (.chr c) c' :=
        fun x => ⟨fun hx => ⟨c, hx, rfl⟩, fun ⟨_, hx, hh⟩ => hh ▸ hx⟩
      simp only [NFA.addSet] at h
      by_cases hs : seen.contains c = true
      · rw [if_pos hs] at h
        have s1 : Step n n cur (fun x => x = some (Sym.ch c)) cont :=
          Step.skip n cur cont _ (fun x hx => hx ▸ hseen c (List.contains_iff_mem.mp hs))
        exact ((s1.congr hc).trans (ih seen cur cont n n' hcur hwf hok' hseen h)).congr
          (fun x => (setLabel_cons _ _ x).symm)
      · rw [if_neg hs] at h
        obtain ⟨n1, h1, h⟩ := bind_eq_ok.mp h
        have s1 := step_addChar h1 hcur
        have hseen' : ∀ c' ∈ c :: seen, Edge n1 cur (some (Sym.ch c')) cont := by
          intro c' hc'
          rw [s1.edges]
          rcases List.mem_cons.mp hc' with rfl | hc'
          · exact Or.inr ⟨rfl, rfl, rfl⟩
          · exact Or.inl (hseen c' hc')
        exact ((s1.congr hc).trans (ih (c :: seen) cur cont n1 n' (s1.len ▸ hcur) (s1.rwf hwf) hok' hseen' h)).congr
          (fun x => (setLabel_cons _ _ x).symm)
    | rng s e =>
      simp only [NFA.addSet] at h
      have s1 := step_addRange n cur s e cont hcur (hok (.rng s e) List.mem_cons_self) hwf
      have hseen' : ∀ c' ∈ seen, Edge (n.addRangeTransition cur s e cont) cur (some (Sym.ch c')) cont :=
        fun c' hc' => (s1.edges _ _ _).mpr (Or.inl (hseen c' hc'))
      exact (s1.trans (ih seen cur cont _ n' (s1.len ▸ hcur) (s1.rwf hwf) hok' hseen' h)).congr
        (fun x => (setLabel_cons (.rng s e) items x).symm)

theorem gadget_chr {n n' : NFA} {cur cont c : Nat} (hp : Pre n cur cont)
    (h : n.addCharTransition cur c cont = .ok n') : Gadget n n' cur cont (fun w => w = [.ch c]) :=
  ((step_addChar h hp.hcur).gadget hp (by simp)).congrL fun w => by
    simp only [Option.some.injEq, exists_eq_right]

theorem addStr_gadget (cs : List Nat) : ∀ (cur cont : Nat) (n n' : NFA), Pre n cur cont →
    NFA.addStr cs cur cont n = .ok n' →
    Gadget n n' cur cont (fun w => cs ≠ [] ∧ w = cs.map Sym.ch) := by
  induction cs with
  | nil =>
    intro cur cont n n' hp h
    cases h
    exact Gadget.empty hp _ (fun w h => h.1 rfl)
  | cons c rest ih =>
    intro cur cont n n' hp h
    cases rest with
    | nil => exact (gadget_chr hp h).congrL fun w => by simp
    | cons c' cs =>
      obtain ⟨n1, h1, h⟩ := addStr_cons_cons_ok h
      have ga := gadget_chr hp.freshCont h1
      refine (gadget_cat hp ga (ih n.length cont n1 n' (pre_cat_b hp ga) h)).congrL fun w => ?_
      simp


/-- `addRe re cur cont` hangs a sub-automaton for `den re` between the transition-less states
`cur` and `cont`; see `Gadget` / `Frame` for what else is guaranteed. -/
theorem addRe_gadget (re : Regex) : ∀ (cur cont : Nat) (n n' : NFA), Pre n cur cont → regexPiecesOK re →
    NFA.addRe re cur cont n = .ok n' → Gadget n n' cur cont (den re) := by
  induction re with
  | builtin | diff =>
    intro cur cont n n' hp hre h
    obtain ⟨m, hm, rfl⟩ := addRe_class_ok h trivial
    exact class_gadget hp _ m hm (regexPiecesOK_class _ hre)
  | var name =>
    intro cur cont n n' _ _ h
    cases h
  | chr c =>
    exact fun cur cont n n' hp _ h => gadget_chr hp h
  | str cs =>
    intro cur cont n n' hp _ h
    exact addStr_gadget cs cur cont n n' hp h
  | set items =>
    intro cur cont n n' hp hre h
    have st := addSet_step items [] cur cont n n' hp.hcur (hp.wf.rangesWF cur hp.hcur) hre
      (fun c hc => by cases hc) h
    refine (st.gadget hp (by rintro ⟨c, hc, _⟩; cases hc)).congrL (fun w => ?_)
    simp only [den]
    constructor
    · rintro ⟨y, rfl, c, hyc, hit⟩
      cases hyc
      exact ⟨c, rfl, hit⟩
    · rintro ⟨c, rfl, hit⟩
      exact ⟨.ch c, rfl, c, rfl, hit⟩
  | star r ih =>
    intro cur cont n n' hp hre h
    obtain ⟨n1, n2, n3, n4, h1, h2, h3, h4, h5⟩ := addRe_star_ok h
    exact gadget_star hp (ih _ _ _ n1 hp.fresh2 hre h1) h2 h3 h4 h5
  | plus r ih =>
    intro cur cont n n' hp hre h
    obtain ⟨n1, n2, n3, h1, h2, h3, h4⟩ := addRe_plus_ok h
    exact gadget_plus hp (ih _ _ _ n1 hp.fresh2 hre h1) h2 h3 h4
  | opt r ih =>
    intro cur cont n n' hp hre h
    obtain ⟨n1, n2, h1, h2, h3⟩ := addRe_opt_ok h
    exact gadget_opt hp (ih _ _ _ n1 hp.freshCur hre h1) h2 h3
  | cat a b iha ihb =>
    intro cur cont n n' hp hre h
    obtain ⟨n1, h1, h2⟩ := addRe_cat_ok h
    have ga := iha _ _ _ n1 hp.freshCont hre.1 h1
    exact gadget_cat hp ga (ihb _ _ n1 n' (pre_cat_b hp ga) hre.2 h2)
  | alt a b iha ihb =>
    intro cur cont n n' hp hre h
    obtain ⟨n1, n2, n3, h1, h2, h3, h4⟩ := addRe_alt_ok h
    have ga := iha _ _ _ n1 hp.freshCur2 hre.1 h1
    exact gadget_alt hp ga (ihb _ _ n1 n2 (pre_alt_b hp ga) hre.2 h2) h3 h4
  | any =>
    intro cur cont n n' hp _ h
    refine ((step_addAny h hp.hcur).gadget hp (by rintro ⟨c, hc⟩; cases hc)).congrL (fun w => ?_)
    simp only [den]
    constructor
    · rintro ⟨y, rfl, c, hy⟩; cases hy; exact ⟨c, rfl⟩
    · rintro ⟨c, rfl⟩; exact ⟨.ch c, rfl, c, rfl⟩
  | eoi =>
    intro cur cont n n' hp _ h
    refine ((step_addEoi h hp.hcur).gadget hp (by simp)).congrL (fun w => ?_)
    simp only [den, Option.some.injEq, exists_eq_right]


/-- The core lemma in terms of `NPath`: (a) frame, (b) well-formedness, (c) new edges only enter
`cont` or fresh states, (d) paths between old states. -/
theorem addRe_core (re : Regex) (cur cont : Nat) (n n' : NFA) (hwf : NFAWF n) (hcur : cur < n.length)
    (hcont : cont < n.length) (hne : cur ≠ cont) (vcur : NFA.virgin n cur) (vcont : NFA.virgin n cont)
    (hre : regexPiecesOK re) (h : NFA.addRe re cur cont n = .ok n') :
    n'.length ≥ n.length ∧
    (∀ s, s < n.length → s ≠ cur → n'.st s = n.st s) ∧
    (∀ s, (n'.st s).acc = (n.st s).acc) ∧
    NFAWF n' ∧
    (∀ a x b, Edge n' a x b → Edge n a x b ∨ b = cont ∨ n.length ≤ b) ∧
    (∀ p q w, p < n.length → q < n.length →
      (NPath n' p w q ↔ NPath n p w q ∨
        (q = cont ∧ ∃ w0 u, w = w0 ++ u ∧ NPath n p w0 cur ∧ den re u))) := by
  have hp : Pre n cur cont := ⟨hwf, hcur, hcont, hne, vcur, vcont⟩
  have g := addRe_gadget re cur cont n n' hp hre h
  refine ⟨g.frame.len, g.frame.old, g.frame.accs, g.frame.wf, g.frame.tgt, ?_⟩
  intro p q w hpl hq
  simp only [npath_iff_path]
  exact g.paths_old hp p q w hpl hq

/-- Extra invariant of the NFA accumulated by `add_regex`, not implied by `NFAWF`: no transition
of any kind enters the initial state `0`. (Without it a word could loop from `0` back to `0`
before taking the ε-edge into the new rule's sub-automaton, and `NPath nfa' 0 w reAcc ↔ den re w`
would be false.) -/
structure NFAShape (n : NFA) : Prop where
  noEnter0 : ∀ s, ¬ (0 ∈ (n.st s).eps ∨ 0 ∈ (n.st s).any ∨ 0 ∈ (n.st s).eoi ∨
    (∃ e ∈ (n.st s).chars, 0 ∈ e.2) ∨ (∃ r ∈ (n.st s).ranges, 0 ∈ r.2.2))

theorem shape_iff_edges {n : NFA} (hwf : NFAWF n) : NFAShape n ↔ ∀ a x, ¬ Edge n a x 0 := by
  constructor
  · intro hs a x h
    exact hs.noEnter0 a (stgt_of_sedge h)
  · intro he
    refine ⟨fun s ht => ?_⟩
    obtain ⟨x, hx⟩ := sedge_of_stgt (fun _ hm => ((Subset.ranges_wf_all hwf s).mem hm).2) ht
    exact he s x hx

theorem path_into0 {n : NFA} (hno : ∀ a x, ¬ Edge n a x 0) {a q : Nat} {u : List Sym}
    (h : Path (Edge n) a u q) (hq : q = 0) : a = 0 ∧ u = [] := by
  induction h with
  | refl s => exact ⟨hq, rfl⟩
  | step he _ ih =>
    obtain ⟨rfl, _⟩ := ih hq
    exact absurd he (hno _ _)

theorem wf_new : NFAWF NFA.new :=
  wf_of_edges Nat.zero_lt_one (fun s _ => by rw [st_new]; trivial)
    (fun s _ => by rw [st_new]; exact List.nodup_nil)
    (fun a x b h => by unfold Edge at h; rw [st_new] at h; exact absurd h (sedge_empty x b))

theorem shape_new : NFAShape NFA.new :=
  ⟨fun s h => by rw [st_new] at h; exact NfaShape.stgt_empty 0 h⟩

theorem targetsNonempty_new : TargetsNonempty NFA.new :=
  fun s _ => by rw [st_new]; exact snonempty_empty

/-- the four preparatory steps of `addRegex` (accepting state, start state, ε-edge from `0`) -/
structure Prep (n n4 : NFA) (acc : Acc) : Prop where
  len : n4.length = n.length + 2
  wf : NFAWF n4
  edges : ∀ a x b, Edge n4 a x b ↔ addEps (Edge n) 0 (n.length + 1) a x b
  accs : ∀ a, (n4.st a).acc = if a = n.length then some acc else (n.st a).acc
  virgin : ∀ a, n.length ≤ a → NFA.virgin n4 a
  tne : TargetsNonempty n → TargetsNonempty n4

theorem prep {n n2 n4 : NFA} {acc : Acc} (hwf : NFAWF n)
    (h2 : n.newState.1.makeStateAccepting n.length acc = .ok n2)
    (h4 : n2.newState.1.addEmptyTransition 0 (n.length + 1) = .ok n4) : Prep n n4 acc := by
  have h0 := hwf.nonempty
  obtain ⟨hl, hst⟩ := addRegex_prep h0 h2 h4
  have hedges : ∀ a x b, Edge n4 a x b ↔ addEps (Edge n) 0 (n.length + 1) a x b := by
    intro a x b
    unfold Edge
    rw [hst a]
    by_cases ha0 : a = 0
    · rw [if_pos ha0]
      refine (sedge_acc { n.st a with eps := _ } _ x b).trans ((sedge_addEps _ _ x b).trans ?_)
      exact or_congr_right ⟨fun h => ⟨ha0, h⟩, fun h => h.2⟩
    · rw [if_neg ha0]
      exact (sedge_acc (n.st a) _ x b).trans (or_iff_left fun h => ha0 h.1).symm
  refine ⟨hl, ?_, hedges, fun a => by rw [hst a], ?_, ?_⟩
  · refine wf_of_edges (hl ▸ Nat.succ_pos _) (fun s _ => ?_) (fun s _ => ?_) (fun a x b hab => ?_)
    · rw [hst s]; exact Subset.ranges_wf_all hwf s
    · rw [hst s]; exact Subset.charsNodup_all hwf s
    · rcases (hedges a x b).mp hab with h | ⟨_, _, h⟩
      · exact hl ▸ Nat.lt_add_right 2 (edge_target_lt hwf h)
      · exact h ▸ hl ▸ Nat.lt_succ_self _
  · intro a ha
    unfold NFA.virgin
    rw [hst a, if_neg (Nat.ne_of_gt (Nat.lt_of_lt_of_le h0 ha)), Subset.st_eq_empty_of_le (n := n) ha]
    exact ⟨rfl, rfl, rfl, rfl, rfl⟩
  · intro hne s _
    rw [hst s]
    exact tne_all hne s

theorem pre_of_prep {n n4 : NFA} {acc : Acc} (p : Prep n n4 acc) :
    Pre n4 (n.length + 1) n.length :=
  ⟨p.wf, p.len ▸ Nat.lt_succ_self _, p.len ▸ Nat.lt_succ_of_lt (Nat.lt_succ_self _), Nat.succ_ne_self _,
    p.virgin _ (Nat.le_succ _), p.virgin _ (Nat.le_refl _)⟩

end Thompson

open Thompson in
theorem addRegex_shape (nfa : NFA) (hwf : NFAWF nfa) (hsh : Thompson.NFAShape nfa) (re : Regex)
    (hre : regexPiecesOK re) (ctx : Option Nat) (value : Nat) (nfa' : NFA)
    (h : nfa.addRegex re ctx value = .ok nfa') : Thompson.NFAShape nfa' := by
  obtain ⟨n2, n4, h2, h4, h5⟩ := addRegex_unfold h
  have p := prep hwf h2 h4
  have g := addRe_gadget re _ _ n4 nfa' (pre_of_prep p) hre h5
  have h0 := hwf.nonempty
  rw [shape_iff_edges g.frame.wf]
  intro a x hab
  rcases g.frame.tgt a x 0 hab with h1 | h1 | h1
  · rcases (p.edges a x 0).mp h1 with h1 | ⟨_, _, h1⟩
    · exact (shape_iff_edges hwf).mp hsh a x h1
    · cases h1
  · exact Nat.ne_of_lt h0 h1
  · rw [p.len] at h1; cases h1

open Thompson in
theorem addRegex_targetsNonempty (nfa : NFA) (hwf : NFAWF nfa) (hne : Thompson.TargetsNonempty nfa)
    (re : Regex) (hre : regexPiecesOK re) (ctx : Option Nat) (value : Nat) (nfa' : NFA)
    (h : nfa.addRegex re ctx value = .ok nfa') : Thompson.TargetsNonempty nfa' := by
  obtain ⟨n2, n4, h2, h4, h5⟩ := addRegex_unfold h
  have p := prep hwf h2 h4
  have g := addRe_gadget re _ _ n4 nfa' (pre_of_prep p) hre h5
  exact g.frame.tne (p.tne hne)

open Thompson in
/-- Correctness of `add_regex`. The hypothesis `NFAShape nfa` (no transition enters state `0`;
it holds of `NFA.new` and is preserved, see `Thompson.shape_new`, `addRegex_shape`) is needed in
addition to `NFAWF`: see `Thompson.NFAShape`. -/
theorem addRegex_correct (nfa : NFA) (hwf : NFAWF nfa) (hsh : Thompson.NFAShape nfa) (re : Regex)
    (hre : regexPiecesOK re) (ctx : Option Nat) (value : Nat) (nfa' : NFA)
    (h : nfa.addRegex re ctx value = .ok nfa') :
    NFAWF nfa' ∧ nfa'.length ≥ nfa.length + 2 ∧
    (nfa'.st nfa.length).acc = some { value := value, ctx := ctx } ∧
    (∀ w, NPath nfa' 0 w nfa.length ↔ den re w) ∧
    (∀ a, a < nfa.length → (nfa'.st a).acc = (nfa.st a).acc) ∧
    (∀ a w, a < nfa.length → (NPath nfa' 0 w a ↔ NPath nfa 0 w a)) ∧
    (∀ a, nfa.length < a → a < nfa'.length → (nfa'.st a).acc = none) := by
  obtain ⟨n2, n4, h2, h4, h5⟩ := addRegex_unfold h
  have p := prep hwf h2 h4
  have hp := pre_of_prep p
  have g := addRe_gadget re _ _ n4 nfa' hp hre h5
  have h0 := hwf.nonempty
  have hN : ∀ {a}, a < nfa.length → a < n4.length := fun ha => Nat.lt_trans ha hp.hcont
  have hno0 := (shape_iff_edges hwf).mp hsh
  -- the prepared automaton has the old paths, and those that take the new edge `0 → N+1` last
  have dInit : Dead (Edge nfa) (nfa.length + 1) := fun x b => edge_ge (Nat.le_succ _) x b
  have hP4 : ∀ p' w q, Path (Edge n4) p' w q ↔
      Path (Edge nfa) p' w q ∨ (q = nfa.length + 1 ∧ Path (Edge nfa) p' w 0) := by
    intro p' w q
    rw [Path.congr p.edges, path_addEps_tgtDead _ _ _ _ _ _ dInit (Nat.succ_ne_zero _).symm]
  have hold : ∀ {w q}, Path (Edge nfa) 0 w q → q < nfa.length :=
    fun h1 => (path_end hwf h1).elim (fun e => e ▸ h0) id
  refine ⟨g.frame.wf, p.len ▸ g.frame.len, ?_, ?_, ?_, ?_, ?_⟩
  · rw [g.frame.accs, p.accs, if_pos rfl]
  · intro w
    rw [npath_iff_path, g.paths_old hp 0 nfa.length w (hN h0) hp.hcont]
    constructor
    · rintro (h1 | ⟨_, w0, u, rfl, h1, hu⟩)
      · rcases (hP4 0 w nfa.length).mp h1 with h1 | ⟨h1, _⟩
        · exact absurd (hold h1) (Nat.lt_irrefl _)
        · exact absurd h1.symm (Nat.succ_ne_self _)
      · rcases (hP4 0 w0 (nfa.length + 1)).mp h1 with h1 | ⟨_, h1⟩
        · exact absurd (hold h1) (Nat.not_lt_of_gt (Nat.lt_succ_self _))
        · rw [(path_into0 hno0 h1 rfl).2]; exact hu
    · intro hu
      exact Or.inr ⟨rfl, [], w, rfl, (hP4 0 [] _).mpr (Or.inr ⟨rfl, Path.refl 0⟩), hu⟩
  · intro a ha
    rw [g.frame.accs, p.accs, if_neg (Nat.ne_of_lt ha)]
  · intro a w ha
    rw [npath_iff_path, npath_iff_path, g.paths_old hp 0 a w (hN h0) (hN ha), hP4]
    constructor
    · rintro ((h1 | ⟨h1, _⟩) | ⟨h1, _⟩)
      · exact h1
      · exact absurd h1 (Nat.ne_of_lt (Nat.lt_succ_of_lt ha))
      · exact absurd h1 (Nat.ne_of_lt ha)
    · intro h1; exact Or.inl (Or.inl h1)
  · intro a ha _
    rw [g.frame.accs, p.accs, if_neg (Nat.ne_of_gt ha), Subset.st_eq_empty_of_le (n := nfa) (Nat.le_of_lt ha)]
    rfl

end Lexgen
