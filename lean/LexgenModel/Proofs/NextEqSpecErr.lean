import LexgenModel.Proofs.NextEqSpecCompile
import LexgenModel.Proofs.ViableRef
/-!
# The error-resume position of the generated code is the one of the executable specification

* `reach_take_state_iff`: `gotoLen` is the longest prefix all of whose non-empty prefixes lead to a *state*;
* `errAdvance_eq`: with the entry-level reading of those prefixes (`EntryExt`) and the specification of
  `viableRef` (`viableRef_spec`), `errAdvance` is
  `(min (gotoLen + 1) |iter|, gotoLen = |iter|)`;
* `errSt_eq_errState`: the lexer state the scan leaves behind after an `InvalidToken` (`errSt`) is `errState`.
-/
namespace Lexgen
namespace NextEqSpec
variable {σ τ ε : Type}

theorem reach_take_state_iff (d : DFA Trans) : ∀ (iter : List Nat) (s j : Nat), 0 < j → j ≤ iter.length →
    ((∃ t, reach d (.st s) (iter.take j) = some (.st t)) ↔ j ≤ gotoLen d s iter) := by
  intro iter
  induction iter with
  | nil => exact fun s j hj hle => absurd hj (Nat.not_lt.mpr hle)
  | cons c rest ih =>
    intro s j hj hle
    cases j with
    | zero => exact absurd hj (Nat.lt_irrefl 0)
    | succ j =>
      rw [List.take_succ_cons]
      cases hlt : lookupTrans (d.st s) c with
      | none =>
        rw [gotoLen_cons_stop d s c rest (fun t ht => by rw [hlt] at ht; cases ht)]
        simp only [reach, hlt]
        exact ⟨fun ⟨_, ht⟩ => (nomatch ht), fun h => absurd h (Nat.not_succ_le_zero j)⟩
      | some tr =>
        cases tr with
        | accept accs =>
          rw [gotoLen_cons_stop d s c rest (fun t ht => by rw [hlt] at ht; cases ht)]
          simp only [reach, hlt, toCfg_accept]
          refine ⟨fun ⟨t, ht⟩ => ?_, fun h => absurd h (Nat.not_succ_le_zero j)⟩
          cases (reach_term d accs _ _ ht).2
        | goto t =>
          rw [gotoLen_cons_goto d s c t rest hlt, Nat.add_le_add_iff_right]
          simp only [reach, hlt, toCfg_goto]
          rcases Nat.eq_zero_or_pos j with rfl | hj'
          · exact ⟨fun _ => Nat.zero_le _, fun _ => ⟨t, reach_nil d _⟩⟩
          · exact ih t j hj' (Nat.le_of_succ_le_succ hle)

theorem extendable_of_viable_succ {rules : List CoreRule} (iter : List Nat) (j : Nat) (hj : j + 1 ≤ iter.length)
    (h : Viable rules (iter.take (j + 1))) : Extendable rules (iter.take j) := by
  obtain ⟨r, hr, v, hd⟩ := h
  have hlt : j < iter.length := by omega
  have ht : iter.take (j + 1) = iter.take j ++ [iter[j]] := by
    rw [List.take_add_one, List.getElem?_eq_getElem hlt]
    rfl
  rw [ht, List.map_append, List.append_assoc] at hd
  exact ⟨r, hr, .ch iter[j], v, hd⟩

/-- `v` is the longest viable prefix (`V`), `g` the longest prefix all of whose non-empty prefixes are
extendable (`E`): an extendable prefix is viable and a viable one extends every shorter one, so `v` is `g`
when the scan can read on after `v` characters, and `g + 1` (the character on which it dies) otherwise. -/
theorem viable_vs_extendable (n v g : Nat) (E V : Nat → Prop)
    (hv1 : v ≤ n) (hv2 : ∀ j, 0 < j → j ≤ v → V j) (hv3 : v < n → ¬ V (v + 1))
    (hg1 : g ≤ n) (hg : ∀ j, 0 < j → j ≤ n → (E j ↔ j ≤ g))
    (l1 : ∀ j, E j → V j) (l2 : ∀ j, j + 1 ≤ n → V (j + 1) → E j) :
    ((v = 0 ∨ E v) ∧ v = g) ∨ (¬ (v = 0 ∨ E v) ∧ v = g + 1) := by
  have hgv : g ≤ v := Nat.le_of_not_lt fun hc =>
    hv3 (Nat.lt_of_lt_of_le hc hg1) (l1 _ ((hg (v + 1) (Nat.succ_pos v) (Nat.le_trans hc hg1)).mpr hc))
  by_cases hE : v = 0 ∨ E v
  · refine .inl ⟨hE, Nat.le_antisymm ?_ hgv⟩
    rcases Nat.eq_zero_or_pos v with hv0 | hpos
    · exact hv0 ▸ Nat.zero_le g
    · exact (hg v hpos hv1).mp (hE.resolve_left (Nat.ne_of_gt hpos))
  · refine .inr ⟨hE, Nat.le_antisymm (Nat.le_of_not_lt fun hc => ?_) (Nat.lt_of_not_le fun hle => ?_)⟩
    · have hn : g + 1 + 1 ≤ n := Nat.le_trans hc hv1
      exact Nat.not_succ_le_self g ((hg (g + 1) (Nat.succ_pos g) (Nat.le_of_succ_le hn)).mp
        (l2 (g + 1) hn (hv2 _ (Nat.succ_pos _) hc)))
    · exact hE ((Nat.eq_zero_or_pos v).imp_right fun hpos => (hg v hpos hv1).mpr hle)

theorem errAdvance_formula (n v g : Nat) (reads : Bool) (hv : v ≤ n)
    (h : reads = true ∧ v = g ∨ reads = false ∧ v = g + 1) :
    (v + (if reads && decide (v < n) then 1 else 0), reads && (v == n)) = (min (g + 1) n, decide (g = n)) := by
  rcases h with ⟨rfl, rfl⟩ | ⟨rfl, rfl⟩
  · rw [Bool.true_and, Bool.true_and, Bool.beq_eq_decide_eq]
    congr 1
    by_cases hlt : v < n
    · rw [decide_eq_true hlt, if_pos rfl, Nat.min_eq_left hlt]
    · obtain rfl : v = n := Nat.le_antisymm hv (Nat.le_of_not_lt hlt)
      rw [decide_eq_false hlt, if_neg Bool.false_ne_true, Nat.min_eq_right (Nat.le_succ v), Nat.add_zero]
  · rw [Bool.false_and, Bool.false_and, if_neg Bool.false_ne_true, Nat.min_eq_left hv,
      decide_eq_false (Nat.ne_of_lt hv)]

/-- the statement of `viableRef_spec`, as `errAdvance_eq` assumes it; `viableRef_spec` proves it -/
def ViableRefHyp : Prop :=
  ∀ (res : List Regex), (∀ r ∈ res, NoEmptyPieces r) → ∀ iter : List Nat,
    (viableRef res iter).1 ≤ iter.length ∧
    (∀ j, 0 < j → j ≤ (viableRef res iter).1 → ∃ r ∈ res, ∃ v : List Sym, den r ((iter.take j).map Sym.ch ++ v)) ∧
    ((viableRef res iter).1 < iter.length →
      ¬ ∃ r ∈ res, ∃ v : List Sym, den r ((iter.take ((viableRef res iter).1 + 1)).map Sym.ch ++ v)) ∧
    (((viableRef res iter).2.any fun r => aliveR r && hasWordR r) = true ↔
      ∃ r ∈ res, ∃ (x : Sym) (v : List Sym), den r ((iter.take (viableRef res iter).1).map Sym.ch ++ x :: v))

theorem take_ne_nil {α : Type} {l : List α} {j : Nat} (hj : 0 < j) (hle : j ≤ l.length) : l.take j ≠ [] :=
  fun hnil => Nat.ne_of_gt hj ((List.take_eq_nil_iff.mp hnil).resolve_right
    (List.ne_nil_of_length_pos (Nat.lt_of_lt_of_le hj hle)))

/-- `errAdvance_eq`, reading only the non-empty prefixes of `iter` at the entry -/
theorem errAdvance_eq_take (rules : List CoreRule) (hne : ∀ r ∈ rules, NoEmptyPieces r.re)
    (d : DFA Trans) (e : Nat) (iter : List Nat)
    (hE : ∀ j, 0 < j → j ≤ iter.length →
      ((∃ t, reach d (.st e) (iter.take j) = some (.st t)) ↔ Extendable rules (iter.take j))) :
    errAdvance (rules.map (·.re)) iter =
      (min (gotoLen d e iter + 1) iter.length, decide (gotoLen d e iter = iter.length)) := by
  obtain ⟨hv1, hv2, hv3, hv4⟩ := viableRef_spec (rules.map (·.re)) (List.forall_mem_map.mpr hne) iter
  have hg1 := gotoLen_le d iter e
  have hg := reach_take_state_iff d iter e
  unfold errAdvance
  -- with `viableRef … iter` and `gotoLen …` in the goal the unifier evaluates them
  generalize viableRef (rules.map (·.re)) iter = p at hv1 hv2 hv3 hv4 ⊢
  generalize gotoLen d e iter = g at hg1 hg ⊢
  have hreads : ((p.1 == 0) || p.2.any fun r => aliveR r && hasWordR r) = true ↔
      p.1 = 0 ∨ Extendable rules (iter.take p.1) := by
    rw [Bool.or_eq_true, beq_iff_eq, hv4]
    exact or_congr Iff.rfl (extendableAt_map_iff rules iter p.1)
  apply errAdvance_formula iter.length p.1 g _ hv1
  rw [Bool.eq_false_iff, Ne, hreads]
  exact viable_vs_extendable iter.length p.1 g
    (fun j => Extendable rules (iter.take j)) (fun j => Viable rules (iter.take j))
    hv1
    (fun j h1 h2 => (viableAt_map_iff rules iter j).mp (hv2 j h1 h2))
    (fun h hV => hv3 h ((viableAt_map_iff rules iter _).mpr hV))
    hg1
    (fun j h1 h2 => (hE j h1 h2).symm.trans (hg j h1 h2))
    (fun _ h => extendable_viable h)
    (fun j h1 h2 => extendable_of_viable_succ iter j h1 h2)

-- `HA` is not used: `errAdvance_eq_take` calls `viableRef_spec` itself
set_option linter.unusedVariables false in
theorem errAdvance_eq (HA : ViableRefHyp) (rules : List CoreRule) (hne : ∀ r ∈ rules, NoEmptyPieces r.re)
    (d : DFA Trans) (e : Nat) (hE : EntryExt d e rules) (iter : List Nat) :
    errAdvance (rules.map (·.re)) iter =
      (min (gotoLen d e iter + 1) iter.length, decide (gotoLen d e iter = iter.length)) :=
  errAdvance_eq_take rules hne d e iter fun j hj hle => hE (iter.take j) (take_ne_nil hj hle)

theorem advanceBy_min (width : Nat → Nat) (st : LState σ) (k : Nat) :
    advanceBy width st (min k st.iter.length) = advanceBy width st k := by
  unfold advanceBy
  rw [← List.take_eq_take_min, ← List.drop_eq_drop_min]

theorem errSt_eq_errState (cfg : Config σ τ ε) (res : List Regex) (s : Nat) (st : LState σ)
    (hadv : errAdvance res st.iter = (min (gotoLen cfg.dfa s st.iter + 1) st.iter.length,
      decide (gotoLen cfg.dfa s st.iter = st.iter.length))) :
    errState cfg.width res st = errSt cfg s st := by
  unfold errState
  rw [hadv]
  show ({ advanceBy cfg.width st (min (gotoLen cfg.dfa s st.iter + 1) st.iter.length) with
    state := 0, initial := 0, last := none, done := _, curStart := _ } : LState σ) = _
  rw [advanceBy_min]
  rfl

end NextEqSpec
end Lexgen
