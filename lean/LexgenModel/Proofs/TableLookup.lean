import LexgenModel.Model.Runtime
/-!
# What a table lookup finds is an entry of the table, hence a successor of the state; a state without transitions has neither
-/
namespace Lexgen

theorem lookupChar_mem {α : Type} (l : List (Nat × α)) (c : Nat) (t : α)
    (h : lookupChar l c = some t) : t ∈ l.map (·.2) := by
  induction l with
  | nil => cases h
  | cons e rest ih =>
    obtain ⟨k, v⟩ := e
    rw [lookupChar] at h
    split at h
    · cases h
      exact List.mem_cons_self
    · exact List.mem_cons_of_mem _ (ih h)

theorem rangeLookup_mem {α : Type} (m : RangeMap α) (c : Nat) (t : α)
    (h : RangeMap.lookup m c = some t) : t ∈ m.map (·.2.2) := by
  induction m with
  | nil => cases h
  | cons e rest ih =>
    obtain ⟨s, e, v⟩ := e
    rw [RangeMap.lookup] at h
    split at h
    · cases h
      exact List.mem_cons_self
    · exact List.mem_cons_of_mem _ (ih h)

theorem char_mem_succs {α : Type} (d : DState α) (x : α) (h : x ∈ d.chars.map (·.2)) : x ∈ DFA.succs d := by
  simp only [DFA.succs, List.mem_append]
  exact Or.inl (Or.inl (Or.inl h))

theorem range_mem_succs {α : Type} (d : DState α) (x : α) (h : x ∈ d.ranges.map (·.2.2)) :
    x ∈ DFA.succs d := by
  simp only [DFA.succs, List.mem_append]
  exact Or.inl (Or.inl (Or.inr h))

theorem any_mem_succs {α : Type} (d : DState α) (x : α) (h : d.any = some x) : x ∈ DFA.succs d := by
  simp only [DFA.succs, List.mem_append]
  exact Or.inl (Or.inr (by simp [h]))

theorem lookupTrans_mem_succs {α : Type} (d : DState α) (c : Nat) (x : α) (h : lookupTrans d c = some x) :
    x ∈ DFA.succs d := by
  unfold lookupTrans at h
  cases h1 : lookupChar d.chars c with
  | some t1 =>
    rw [h1] at h
    cases h
    exact char_mem_succs _ _ (lookupChar_mem _ _ _ h1)
  | none =>
    rw [h1] at h
    cases h2 : RangeMap.lookup d.ranges c with
    | some t2 =>
      rw [h2] at h
      cases h
      exact range_mem_succs _ _ (rangeLookup_mem _ _ _ h2)
    | none =>
      rw [h2] at h
      exact any_mem_succs _ _ h

theorem DFA.hasNoTransitions_iff {α : Type} (s : DState α) :
    DFA.hasNoTransitions s = true ↔ s.chars = [] ∧ s.ranges = [] ∧ s.any = none ∧ s.eoi = none := by
  unfold DFA.hasNoTransitions
  simp only [Bool.and_eq_true, List.isEmpty_iff, Option.isNone_iff_eq_none, and_assoc]

theorem lookupTrans_none_of_hasNoTransitions {α : Type} (s : DState α)
    (h : DFA.hasNoTransitions s = true) (c : Nat) : lookupTrans s c = none := by
  obtain ⟨h1, h2, h3, _⟩ := (DFA.hasNoTransitions_iff s).mp h
  unfold lookupTrans
  rw [h1, h2, h3]
  rfl

theorem succs_of_hasNoTransitions {α : Type} (s : DState α) (h : DFA.hasNoTransitions s = true) :
    DFA.succs s = [] := by
  obtain ⟨h1, h2, h3, h4⟩ := (DFA.hasNoTransitions_iff s).mp h
  unfold DFA.succs
  rw [h1, h2, h3, h4]
  rfl

end Lexgen
