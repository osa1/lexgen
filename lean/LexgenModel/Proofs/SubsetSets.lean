import LexgenModel.Spec.Lang
/-!
# Sets of NFA states as sorted lists; ε-closure

The layer under both constructions: `setInsert`/`setUnion` on strictly ascending lists, reading a
state of an NFA beyond its length, and generic lemmas about `foldl` and pointwise-related lists.
`closure nfa S` is strictly ascending and contains exactly the states ε-reachable from `S`
(`mem_closure`), for every NFA whose ε-targets are states (`NFAWF`).
-/
namespace Lexgen.Subset
open Lexgen

theorem foldl_inv {α β : Type} (f : β → α → β) (P : β → List α → Prop) (L : List α) (b : β)
    (h0 : P b []) (hs : ∀ b l a, a ∈ L → P b l → P (f b a) (l ++ [a])) : P (L.foldl f b) L := by
  have key : ∀ (M pre : List α) (b : β), (∀ a ∈ M, a ∈ L) → P b pre → P (M.foldl f b) (pre ++ M) := by
    intro M
    induction M with
    | nil => intro pre b _ h; simpa using h
    | cons a M ih =>
      intro pre b hM h
      rw [List.foldl_cons]
      have := ih (pre ++ [a]) (f b a) (fun x hx => hM x (List.mem_cons_of_mem _ hx))
        (hs b pre a (hM a List.mem_cons_self) h)
      simpa [List.append_assoc] using this
  simpa using key L [] b (fun _ h => h) h0

/-- pointwise relation of two lists (core has no `Forall₂`) -/
inductive Rel₂ {α β : Type} (R : α → β → Prop) : List α → List β → Prop
  | nil : Rel₂ R [] []
  | cons {a b l m} : R a b → Rel₂ R l m → Rel₂ R (a :: l) (b :: m)

section
variable {α β : Type} {R : α → β → Prop} {l : List α} {m : List β}

theorem Rel₂.snoc {a : α} {b : β} (h : Rel₂ R l m) (hab : R a b) : Rel₂ R (l ++ [a]) (m ++ [b]) := by
  induction h with
  | nil => exact .cons hab .nil
  | cons h1 _ ih => exact .cons h1 ih

theorem Rel₂.imp {R' : α → β → Prop} (h : Rel₂ R l m) (hi : ∀ a b, a ∈ l → R a b → R' a b) :
    Rel₂ R' l m := by
  induction h with
  | nil => exact .nil
  | cons h1 _ ih =>
    exact .cons (hi _ _ List.mem_cons_self h1) (ih (fun a b ha => hi a b (List.mem_cons_of_mem _ ha)))

theorem Rel₂.flip (h : Rel₂ R l m) : Rel₂ (fun b a => R a b) m l := by
  induction h with
  | nil => exact .nil
  | cons h1 _ ih => exact .cons h1 ih

theorem Rel₂.mem_right (h : Rel₂ R l m) {b : β} (hb : b ∈ m) : ∃ a ∈ l, R a b := by
  induction h with
  | nil => cases hb
  | cons h1 _ ih =>
    rcases List.mem_cons.mp hb with rfl | hb
    · exact ⟨_, List.mem_cons_self, h1⟩
    · obtain ⟨a, ha, hr⟩ := ih hb
      exact ⟨a, List.mem_cons_of_mem _ ha, hr⟩

theorem Rel₂.mem_left (h : Rel₂ R l m) {a : α} (ha : a ∈ l) : ∃ b ∈ m, R a b :=
  h.flip.mem_right ha

theorem Rel₂.nil_iff (h : Rel₂ R l m) : m = [] ↔ l = [] := by
  cases h with
  | nil => exact ⟨fun _ => rfl, fun _ => rfl⟩
  | cons _ _ => exact ⟨fun h => (nomatch h), fun h => (nomatch h)⟩

end

theorem inj_of_nodup_map {α β : Type} (f : α → β) {l : List α} (h : (l.map f).Nodup)
    {a b : α} (ha : a ∈ l) (hb : b ∈ l) (hab : f a = f b) : a = b := by
  induction l with
  | nil => cases ha
  | cons x l ih =>
    rw [List.map_cons, List.nodup_cons] at h
    rcases List.mem_cons.mp ha with ha' | ha' <;> rcases List.mem_cons.mp hb with hb' | hb'
    · rw [ha', hb']
    · exfalso; apply h.1; rw [← ha', hab]; exact List.mem_map_of_mem hb'
    · exfalso; apply h.1; rw [← hb', ← hab]; exact List.mem_map_of_mem ha'
    · exact ih h.2 ha' hb'

theorem filter_length_le {α : Type} (L : List α) (p q : α → Bool)
    (h : ∀ x ∈ L, q x = true → p x = true) : (L.filter q).length ≤ (L.filter p).length := by
  rw [← List.countP_eq_length_filter, ← List.countP_eq_length_filter]
  exact List.countP_mono_left h

theorem filter_length_lt {α : Type} (L : List α) (p q : α → Bool)
    (h : ∀ x ∈ L, q x = true → p x = true) (a : α) (haL : a ∈ L) (hpa : p a = true) (hqa : q a = false) :
    (L.filter q).length < (L.filter p).length := by
  have : L.filter q = (L.filter p).filter q := by
    rw [List.filter_filter]
    refine List.filter_congr fun x hx => ?_
    cases hq : q x
    · rfl
    · rw [h x hx hq]; rfl
  rw [this]
  exact List.length_filter_lt_length_iff_exists.mpr
    ⟨a, List.mem_filter.mpr ⟨haL, hpa⟩, fun hq => Bool.false_ne_true (hqa ▸ hq)⟩

theorem ascending_cons {a : Nat} {l : List Nat} :
    Ascending (a :: l) ↔ (∀ x ∈ l, a < x) ∧ Ascending l := by
  induction l generalizing a with
  | nil => simp [Ascending]
  | cons b l ih =>
    simp only [Ascending]
    constructor
    · rintro ⟨hab, hbl⟩
      refine ⟨fun x hx => ?_, hbl⟩
      rcases List.mem_cons.mp hx with rfl | hx
      · exact hab
      · exact Nat.lt_trans hab ((ih.mp hbl).1 x hx)
    · rintro ⟨h1, h2⟩
      exact ⟨h1 b List.mem_cons_self, h2⟩

theorem ascending_iff_pairwise {l : List Nat} : Ascending l ↔ l.Pairwise (· < ·) := by
  induction l with
  | nil => exact ⟨fun _ => .nil, fun _ => trivial⟩
  | cons a l ih => rw [ascending_cons, List.pairwise_cons, ih]

theorem mem_setInsert {a x : Nat} {l : List Nat} : x ∈ setInsert a l ↔ x = a ∨ x ∈ l := by
  induction l with
  | nil => simp [setInsert]
  | cons y ys ih =>
    simp only [setInsert]
    by_cases h1 : a < y
    · simp [h1]
    · by_cases h2 : a = y
      · subst h2; simp [h1]
      · simp only [h1, h2, if_false, List.mem_cons, ih]
        constructor
        · rintro (h | h | h) <;> simp [h]
        · rintro (h | h | h) <;> simp [h]

theorem setInsert_ne_nil (t : Nat) (l : List Nat) : setInsert t l ≠ [] :=
  List.ne_nil_of_mem (mem_setInsert.mpr (Or.inl rfl))

theorem ascending_setInsert {a : Nat} {l : List Nat} (h : Ascending l) : Ascending (setInsert a l) := by
  induction l with
  | nil => simp [setInsert, Ascending]
  | cons y ys ih =>
    simp only [setInsert]
    have ⟨hy, hys⟩ := ascending_cons.mp h
    by_cases h1 : a < y
    · simp only [h1, if_true]
      refine ascending_cons.mpr ⟨fun x hx => ?_, h⟩
      rcases List.mem_cons.mp hx with rfl | hx
      · exact h1
      · exact Nat.lt_trans h1 (hy x hx)
    · by_cases h2 : a = y
      · subst h2; rw [if_neg h1, if_pos rfl]; exact h
      · simp only [h1, h2, if_false]
        refine ascending_cons.mpr ⟨fun x hx => ?_, ih hys⟩
        rcases mem_setInsert.mp hx with rfl | hx
        · omega
        · exact hy x hx

theorem mem_setUnion {a b : List Nat} {x : Nat} : x ∈ setUnion a b ↔ x ∈ a ∨ x ∈ b := by
  unfold setUnion
  induction b generalizing a with
  | nil => simp
  | cons y ys ih =>
    rw [List.foldl_cons, ih, mem_setInsert, List.mem_cons]
    constructor
    · rintro ((h | h) | h) <;> simp [h]
    · rintro (h | h | h) <;> simp [h]

theorem ascending_setUnion {a b : List Nat} (h : Ascending a) : Ascending (setUnion a b) := by
  unfold setUnion
  induction b generalizing a with
  | nil => simpa using h
  | cons y ys ih => rw [List.foldl_cons]; exact ih (ascending_setInsert h)

theorem mem_setOfList {l : List Nat} {x : Nat} : x ∈ setOfList l ↔ x ∈ l := by
  unfold setOfList; rw [mem_setUnion]; simp

theorem ascending_setOfList (l : List Nat) : Ascending (setOfList l) :=
  ascending_setUnion (by simp [Ascending])

theorem setUnion_ne_nil_right {a b : List Nat} (h : b ≠ []) : setUnion a b ≠ [] := by
  obtain ⟨y, hy⟩ := List.exists_mem_of_ne_nil b h
  exact List.ne_nil_of_mem (mem_setUnion.mpr (Or.inr hy))

theorem setUnion_ne_nil_left {a b : List Nat} (h : a ≠ []) : setUnion a b ≠ [] := by
  obtain ⟨y, hy⟩ := List.exists_mem_of_ne_nil a h
  exact List.ne_nil_of_mem (mem_setUnion.mpr (Or.inl hy))

/-- `NPath n s [] t` as an inductive of its own (`npath_nil`): an induction over it has no word
index to keep equal to `[]` -/
inductive EpsReach (n : NFA) : Nat → Nat → Prop
  | refl (s : Nat) : EpsReach n s s
  | step {s t u : Nat} : t ∈ (n.st s).eps → EpsReach n t u → EpsReach n s u

theorem EpsReach.trans {n : NFA} {s t u : Nat} (h1 : EpsReach n s t) (h2 : EpsReach n t u) :
    EpsReach n s u := by
  induction h1 with
  | refl => exact h2
  | step he _ ih => exact .step he (ih h2)

theorem EpsReach.tail {n : NFA} {s t u : Nat} (h1 : EpsReach n s t) (h2 : u ∈ (n.st t).eps) :
    EpsReach n s u := h1.trans (.step h2 (.refl u))

theorem st_eq_empty_of_le {n : NFA} {s : Nat} (h : n.length ≤ s) : n.st s = NState.empty := by
  unfold NFA.st
  rw [List.getD_eq_getElem?_getD, List.getElem?_eq_none h]; rfl

theorem all_states {n : NFA} {P : NState → Prop} (h0 : P NState.empty) (h : ∀ s, s < n.length → P (n.st s))
    (s : Nat) : P (n.st s) := by
  by_cases hs : s < n.length
  · exact h s hs
  · rw [st_eq_empty_of_le (Nat.le_of_not_lt hs)]; exact h0

theorem ranges_wf_all {n : NFA} (hwf : NFAWF n) : ∀ s, RangeMap.WF (n.st s).ranges :=
  all_states (P := fun st => RangeMap.WF st.ranges) trivial hwf.rangesWF

theorem ranges_lookup {lo : Nat} {m : RangeMap (List Nat)} (h : RangeMap.WFFrom lo m) (c b : Nat) :
    (∃ r ∈ m, r.1 ≤ c ∧ c ≤ r.2.1 ∧ b ∈ r.2.2) ↔ ∃ v, RangeMap.lookup m c = some v ∧ b ∈ v := by
  constructor
  · rintro ⟨r, hr, h1, h2, hb⟩
    exact ⟨r.2.2, (RangeMap.lookup_eq_some_iff h).mpr ⟨r, hr, h1, h2, rfl⟩, hb⟩
  · rintro ⟨v, hv, hb⟩
    obtain ⟨r, hr, h1, h2, rfl⟩ := (RangeMap.lookup_eq_some_iff h).mp hv
    exact ⟨r, hr, h1, h2, hb⟩

theorem charsNodup_all {n : NFA} (hwf : NFAWF n) : ∀ s, ((n.st s).chars.map (·.1)).Nodup :=
  all_states (P := fun st => (st.chars.map (·.1)).Nodup) List.nodup_nil hwf.charsNodup

/-- No transition entry has an empty target list. Not part of `NFAWF`, and needed for the
correctness of `nfaToDfa` (counterexample in `Proofs/Subset.lean`). -/
def TargetsNonempty (n : NFA) : Prop :=
  ∀ s, s < n.length → (∀ e ∈ (n.st s).chars, e.2 ≠ []) ∧ (∀ r ∈ (n.st s).ranges, r.2.2 ≠ [])

theorem targetsNonempty_all {n : NFA} (hne : TargetsNonempty n) :
    ∀ s, (∀ e ∈ (n.st s).chars, e.2 ≠ []) ∧ (∀ r ∈ (n.st s).ranges, r.2.2 ≠ []) :=
  all_states (P := fun st => (∀ e ∈ st.chars, e.2 ≠ []) ∧ (∀ r ∈ st.ranges, r.2.2 ≠ []))
    ⟨fun _ h => absurd h List.not_mem_nil, fun _ h => absurd h List.not_mem_nil⟩ hne

theorem eps_lt {n : NFA} (hwf : NFAWF n) {s y : Nat} (hy : y ∈ (n.st s).eps) : y < n.length := by
  by_cases hs : s < n.length
  · exact hwf.targets s hs y (Or.inl hy)
  · rw [st_eq_empty_of_le (Nat.le_of_not_lt hs)] at hy; cases hy

/-- number of states `< n` not yet in `cl` -/
def miss (n : Nat) (cl : List Nat) : Nat := ((List.range n).filter (fun i => !cl.contains i)).length

theorem not_contains_of_setInsert {a x : Nat} {cl : List Nat} (hx : (!(setInsert a cl).contains x) = true) :
    (!cl.contains x) = true := by
  have h1 : x ∉ setInsert a cl := by simpa using hx
  have h2 : x ∉ cl := fun h => h1 (mem_setInsert.mpr (Or.inr h))
  simpa using h2

theorem miss_insert_le (n a : Nat) (cl : List Nat) : miss n (setInsert a cl) ≤ miss n cl :=
  filter_length_le _ _ _ fun _ _ => not_contains_of_setInsert

theorem miss_insert_lt (n a : Nat) (cl : List Nat) (ha : a < n) (hni : a ∉ cl) :
    miss n (setInsert a cl) < miss n cl := by
  unfold miss
  apply filter_length_lt _ _ _ _ a (List.mem_range.mpr ha)
  · simp [hni]
  · simp [mem_setInsert]
  · exact fun _ _ => not_contains_of_setInsert

/-- the body of the inner loop of `closureAux` -/
def epsStep (acc : List Nat × List Nat) (nx : Nat) : List Nat × List Nat :=
  if acc.2.contains nx then acc else (nx :: acc.1, setInsert nx acc.2)

/-- what folding `epsStep` over the first `L` of the ε-successors of a state has done to the
work list and closure `(wl, cl)` it started from -/
structure EpsInv (n : Nat) (wl cl : List Nat) (acc : List Nat × List Nat) (L : List Nat) : Prop where
  mem : ∀ x, x ∈ acc.2 ↔ x ∈ cl ∨ x ∈ L
  sub : ∀ x, x ∈ acc.1 → x ∈ wl ∨ x ∈ L
  keep : ∀ x, x ∈ wl → x ∈ acc.1
  fresh : ∀ x, x ∈ acc.2 → x ∉ cl → x ∈ acc.1
  asc : Ascending cl → Ascending acc.2
  measure : acc.1.length + miss n acc.2 ≤ wl.length + miss n cl

theorem epsFold_spec (n : Nat) (E : List Nat) (hE : ∀ y ∈ E, y < n) (wl cl : List Nat) :
    EpsInv n wl cl (E.foldl epsStep (wl, cl)) E := by
  refine foldl_inv epsStep (EpsInv n wl cl) E (wl, cl)
    ⟨fun x => ⟨Or.inl, fun h => h.elim id fun h => nomatch h⟩, fun x h => Or.inl h, fun x h => h,
      fun x h hn => absurd h hn, id, Nat.le_refl _⟩ ?_
  rintro ⟨w, c⟩ L y hy ⟨i1, i2, i3, i4, i5, i6⟩
  have hL : ∀ {x}, x ∈ L ++ [y] ↔ x ∈ L ∨ x = y :=
    List.mem_append.trans (or_congr_right List.mem_singleton)
  unfold epsStep
  by_cases hc : y ∈ c
  · rw [if_pos (List.contains_iff_mem.mpr hc)]
    refine ⟨fun x => ?_, fun x hx => (i2 x hx).imp id (List.mem_append_left _), i3, i4, i5, i6⟩
    rw [hL, ← or_assoc, ← i1]
    exact ⟨Or.inl, fun h => h.elim id fun h => h ▸ hc⟩
  · rw [if_neg (fun h => hc (List.contains_iff_mem.mp h))]
    refine ⟨fun x => ?_, fun x hx => ?_, fun x hx => List.mem_cons_of_mem _ (i3 x hx), fun x hx hn => ?_,
      fun h => ascending_setInsert (i5 h), ?_⟩
    · rw [mem_setInsert, hL, i1, or_comm, or_assoc]
    · rcases List.mem_cons.mp hx with rfl | hx
      · exact Or.inr (hL.mpr (Or.inr rfl))
      · exact (i2 x hx).imp id (List.mem_append_left _)
    · rcases mem_setInsert.mp hx with rfl | hx
      · exact List.mem_cons_self
      · exact List.mem_cons_of_mem _ (i4 x hx hn)
    · have := miss_insert_lt n y c (hE y hy) hc
      have i6 : w.length + miss n c ≤ wl.length + miss n cl := i6
      show w.length + 1 + miss n (setInsert y c) ≤ _
      omega

/-- The invariant of `closureAux`: the closure so far is ascending, ε-reachable from `S0` and
contains `S0`; the ε-successors of its members are in it too, except for members still on the work
list. -/
structure ClInv (n : NFA) (S0 wl cl : List Nat) : Prop where
  asc : Ascending cl
  reach : ∀ x ∈ cl, ∃ s ∈ S0, EpsReach n s x
  start : ∀ s ∈ S0, s ∈ cl
  closed : ∀ x ∈ cl, x ∉ wl → ∀ y ∈ (n.st x).eps, y ∈ cl
  pending : ∀ x ∈ wl, x ∈ cl

theorem closureAux_spec {n : NFA} (hwf : NFAWF n) (S0 : List Nat) :
    ∀ (fuel : Nat) (wl cl : List Nat), wl.length + miss n.length cl < fuel → ClInv n S0 wl cl →
      ClInv n S0 [] (NFA.closureAux n fuel wl cl) := by
  intro fuel
  induction fuel with
  | zero => intro wl cl h; omega
  | succ fuel ih =>
    intro wl cl hm h
    cases wl with
    | nil => exact h
    | cons w wl =>
      have hstep : NFA.closureAux n (fuel + 1) (w :: wl) cl =
          NFA.closureAux n fuel ((n.st w).eps.foldl epsStep (wl, cl)).1 ((n.st w).eps.foldl epsStep (wl, cl)).2 := rfl
      rw [hstep]
      have hf := epsFold_spec n.length (n.st w).eps (fun y hy => eps_lt hwf hy) wl cl
      have hwcl : w ∈ cl := h.pending w List.mem_cons_self
      refine ih _ _ ?_ ⟨hf.asc h.asc, fun x hx => ?_, fun s hs => (hf.mem s).mpr (Or.inl (h.start s hs)),
        fun x hx hxn y hy => ?_, fun x hx => ?_⟩
      · have := hf.measure
        simp only [List.length_cons] at hm; omega
      · rcases (hf.mem x).mp hx with h1 | h1
        · exact h.reach x h1
        · obtain ⟨s, hs, hr⟩ := h.reach w hwcl
          exact ⟨s, hs, hr.tail h1⟩
      · by_cases hxw : x = w
        · subst hxw; exact (hf.mem y).mpr (Or.inr hy)
        · by_cases hxc : x ∈ cl
          · exact (hf.mem y).mpr (Or.inl (h.closed x hxc
              (List.not_mem_cons_of_ne_of_not_mem hxw fun h1 => hxn (hf.keep x h1)) y hy))
          · exact absurd (hf.fresh x hx hxc) hxn
      · rcases hf.sub x hx with h1 | h1
        · exact (hf.mem x).mpr (Or.inl (h.pending x (List.mem_cons_of_mem _ h1)))
        · exact (hf.mem x).mpr (Or.inr h1)

theorem miss_le (n : Nat) (cl : List Nat) : miss n cl ≤ n := by
  unfold miss
  have := List.length_filter_le (fun i => !cl.contains i) (List.range n)
  simpa using this

theorem closure_spec {n : NFA} (hwf : NFAWF n) (S : List Nat) :
    Ascending (n.closure S) ∧ ∀ t, t ∈ n.closure S ↔ ∃ s ∈ S, EpsReach n s t := by
  have h := closureAux_spec hwf S (n.length + S.length + 1) S (setOfList S)
    (by have := miss_le n.length (setOfList S); omega)
    ⟨ascending_setOfList S, fun x hx => ⟨x, mem_setOfList.mp hx, .refl x⟩, fun s hs => mem_setOfList.mpr hs,
      fun x hx hxn => absurd (mem_setOfList.mp hx) hxn, fun x hx => mem_setOfList.mpr hx⟩
  refine ⟨h.asc, fun t => ⟨h.reach t, ?_⟩⟩
  rintro ⟨s, hs, hr⟩
  have hs' : s ∈ n.closure S := h.start s hs
  clear hs
  induction hr with
  | refl => exact hs'
  | step he _ ih => exact ih (h.closed _ hs' (fun h => nomatch h) _ he)

theorem ascending_closure {n : NFA} (hwf : NFAWF n) (S : List Nat) : Ascending (n.closure S) :=
  (closure_spec hwf S).1

theorem mem_closure {n : NFA} (hwf : NFAWF n) {S : List Nat} {t : Nat} :
    t ∈ n.closure S ↔ ∃ s ∈ S, EpsReach n s t := (closure_spec hwf S).2 t

theorem closure_nil (n : NFA) : n.closure [] = [] := by
  simp [NFA.closure, NFA.closureAux, setOfList, setUnion]

theorem closure_ne_nil {n : NFA} (hwf : NFAWF n) {S : List Nat} (h : S ≠ []) : n.closure S ≠ [] := by
  obtain ⟨s, hs⟩ := List.exists_mem_of_ne_nil S h
  exact List.ne_nil_of_mem ((mem_closure hwf).mpr ⟨s, hs, .refl s⟩)

theorem closure_eq_nil {n : NFA} (hwf : NFAWF n) {S : List Nat} (h : n.closure S = []) : S = [] :=
  Classical.byContradiction fun hS => closure_ne_nil hwf hS h

end Lexgen.Subset
