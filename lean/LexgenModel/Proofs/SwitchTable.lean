import LexgenModel.Exec.SpecRun
import LexgenModel.Proofs.NextProtocol
/-!
# The generated `switch` table, read in both directions

`switchNum` reads the table by name, `activeSet` reads it backwards by number. Entry states have distinct
numbers (`renumber_entry_inj`: the dispatch of `next()` resolves the number of an entry state to that state),
so reading backwards finds an entry with the very state the number was made from.
-/
namespace Lexgen
variable {σ τ ε : Type}

theorem List.exists_find?_of_mem {α : Type} {p : α → Bool} {l : List α} {a : α} (ha : a ∈ l) (hp : p a = true) :
    ∃ b, l.find? p = some b ∧ b ∈ l ∧ p b = true := by
  cases hf : l.find? p with
  | none => exact absurd hp (List.find?_eq_none.mp hf a ha)
  | some b => exact ⟨b, rfl, List.mem_of_find?_eq_some hf, List.find?_some hf⟩

open NextProtocol

theorem renumber_entry_inj (cfg : Config σ τ ε) (hm : MachineOK cfg) {e e' : Nat} (he : IsEntry cfg e)
    (he' : IsEntry cfg e') (h : renumber cfg.inl e = renumber cfg.inl e') : e = e' := by
  have h1 := dispatch_entry cfg hm e he
  rw [h, dispatch_entry cfg hm e' he'] at h1
  exact (Option.some.inj h1).symm

theorem switchNum_eq (cfg : Config σ τ ε) (n : String) :
    switchNum cfg n = ((cfg.entries.find? (·.1 = n)).map fun p => renumber cfg.inl p.2).getD 0 := by
  unfold switchNum switchTable
  rw [List.find?_map]
  show ((cfg.entries.find? (·.1 = n)).map _).elim 0 _ = _
  cases cfg.entries.find? (·.1 = n) <;> rfl

theorem switchNum_of_mem (cfg : Config σ τ ε) {n : String} {e : Nat} (hmem : (n, e) ∈ cfg.entries)
    (huniq : ∀ e', (n, e') ∈ cfg.entries → e' = e) : switchNum cfg n = renumber cfg.inl e := by
  obtain ⟨p, hf, hp, hn⟩ := List.exists_find?_of_mem (p := (·.1 = n)) hmem (decide_eq_true rfl)
  have hn' : p.1 = n := of_decide_eq_true hn
  rw [switchNum_eq, hf, ← huniq p.2 (hn' ▸ hp)]
  rfl

theorem switchNum_of_not_mem (cfg : Config σ τ ε) {n : String} (h : ∀ e, (n, e) ∉ cfg.entries) : switchNum cfg n = 0 := by
  rw [switchNum_eq]
  cases hf : cfg.entries.find? (·.1 = n) with
  | none => rfl
  | some p =>
    obtain ⟨pn, pe⟩ := p
    have hn : pn = n := of_decide_eq_true (List.find?_some (p := fun x : String × Nat => decide (x.1 = n)) hf)
    exact absurd (List.mem_of_find?_eq_some hf) (hn ▸ h pe)

theorem switchTable_find_num (cfg : Config σ τ ε) (hm : MachineOK cfg) {n : String} {e : Nat} (hmem : (n, e) ∈ cfg.entries) :
    ∃ nm, (nm, e) ∈ cfg.entries ∧
      (switchTable cfg.inl cfg.entries).find? (·.2 = renumber cfg.inl e) = some (nm, renumber cfg.inl e) := by
  obtain ⟨p, hf, hp, hnum⟩ := List.exists_find?_of_mem (p := fun p => decide (renumber cfg.inl p.2 = renumber cfg.inl e))
    hmem (decide_eq_true rfl)
  have hpe : p.2 = e := renumber_entry_inj cfg hm (Or.inr ⟨p.1, hp⟩) (Or.inr ⟨n, hmem⟩) (of_decide_eq_true hnum)
  refine ⟨p.1, hpe ▸ hp, ?_⟩
  unfold switchTable
  rw [List.find?_map]
  show Option.map _ (cfg.entries.find? fun p => decide (renumber cfg.inl p.2 = renumber cfg.inl e)) = _
  rw [hf, ← hpe]
  rfl

theorem activeSet_entry_num (items : LexerDef) (cfg : Config σ τ ε) (hm : MachineOK cfg) (hrs : hasRuleSets items = true)
    {n : String} {e : Nat} (hmem : (n, e) ∈ cfg.entries) :
    ∃ nm, (nm, e) ∈ cfg.entries ∧
      activeSet items cfg (renumber cfg.inl e) = (allRuleSets items).find? (·.1 = nm) := by
  obtain ⟨nm, hnm, hf⟩ := switchTable_find_num cfg hm hmem
  refine ⟨nm, hnm, ?_⟩
  unfold activeSet
  rw [if_pos hrs, hf]

theorem activeSet_unnamed (items : LexerDef) (cfg : Config σ τ ε) (hrs : hasRuleSets items = false) :
    activeSet items cfg 0 = (allRuleSets items).head? := by
  unfold activeSet
  rw [if_neg (by rw [hrs]; exact Bool.false_ne_true), if_pos rfl]

end Lexgen
