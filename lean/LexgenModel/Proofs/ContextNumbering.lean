import LexgenModel.Proofs.AcceptRenaming
/-!
# The numbering of right-context automata is irrelevant; equal contexts may share an automaton

An accept entry names its right context by the number of a context automaton. The generated code uses that number only to call the context
function (`ctxOK cfg i iter`). If the accept entries of a machine are renumbered by ANY `g` (not necessarily injective) and the automaton found
under the new number decides the same thing as the one found under the old number, `next()` behaves identically. In particular rules whose right
contexts are the same language may share one automaton. This licenses comparing the implementation's context numbers with the model's up to
renaming (`harness/corpus.py`, `canon_contexts`).
-/
namespace Lexgen
variable {σ τ ε : Type}

def Acc.mapC (g : Nat → Nat) (a : Acc) : Acc := { a with ctx := a.ctx.map g }

def Trans.mapC (g : Nat → Nat) : Trans → Trans
  | .goto s => .goto s
  | .accept accs => .accept (accs.map (Acc.mapC g))

def DState.mapCTrans (g : Nat → Nat) (s : DState Trans) : DState Trans :=
  { s with accepting := s.accepting.map (Acc.mapC g),
           chars := s.chars.map fun p => (p.1, p.2.mapC g),
           ranges := s.ranges.map fun r => (r.1, r.2.1, r.2.2.mapC g),
           any := s.any.map (Trans.mapC g),
           eoi := s.eoi.map (Trans.mapC g) }

structure CtxRenamed (g : Nat → Nat) (cfg cfg' : Config σ τ ε) : Prop where
  dfa : cfg'.dfa = cfg.dfa.map (DState.mapCTrans g)
  entries : cfg'.entries = cfg.entries
  inl : cfg'.inl = cfg.inl
  actions : cfg'.actions = cfg.actions
  width : cfg'.width = cfg.width
  input : cfg'.input = cfg.input
  /-- the automaton found under the new number decides what the automaton under the old number decided -/
  same : ∀ i iter, ctxOK cfg' (g i) iter = ctxOK cfg i iter

theorem Trans.mapC_eq (g : Nat → Nat) : Trans.mapC g = Trans.mapA (Acc.map id g) := by
  funext t
  cases t <;> rfl

theorem DState.mapCTrans_eq (g : Nat → Nat) : DState.mapCTrans g = DState.mapA (Acc.map id g) := by
  funext s
  simp only [DState.mapCTrans, DState.mapA, RangeMap.mapVals, Trans.mapC_eq]
  rfl

theorem CtxRenamed.renamed {g : Nat → Nat} {cfg cfg' : Config σ τ ε} (h : CtxRenamed g cfg cfg') : Renamed id g cfg cfg' where
  dfa := by rw [h.dfa, DState.mapCTrans_eq]
  entries := h.entries
  inl := h.inl
  width := h.width
  input := h.input
  same := h.same
  acts := h.actions ▸ actsAgree_id cfg.actions

theorem next_mapC (g : Nat → Nat) (cfg cfg' : Config σ τ ε) (h : CtxRenamed g cfg cfg') (st : LState σ) :
    next cfg' st = next cfg st := by
  have := next_ren h.renamed st
  rw [StMap_id] at this
  exact this.trans (by cases next cfg st <;> rfl)

theorem runN_mapC (g : Nat → Nat) (cfg cfg' : Config σ τ ε) (h : CtxRenamed g cfg cfg') (n : Nat) (st : LState σ) :
    runN cfg' n st = runN cfg n st := by
  have := runN_ren h.renamed n st
  rw [StMap_id] at this
  exact this

theorem inlinedStates_mapC (g : Nat → Nat) (d : DFA Trans) : inlinedStates (d.map (DState.mapCTrans g)) = inlinedStates d := by
  rw [DState.mapCTrans_eq, inlinedStates_mapA]

theorem compiled_ctxRenamed (g : Nat → Nat) (c c' : Compiled)
    (hdfa : c'.dfa = c.dfa.map (DState.mapCTrans g)) (hent : c'.entries = c.entries)
    (hsame : ∀ i iter, ctxRun (c'.ctxs.getD (g i) []) 0 iter = ctxRun (c.ctxs.getD i []) 0 iter)
    (acts : Nat → Action σ τ ε) (width : Nat → Nat) (input : Option (List Nat)) :
    CtxRenamed g (c.config acts width input) (c'.config acts width input) where
  dfa := hdfa
  entries := hent
  inl := by
    show inlinedStates c'.dfa = inlinedStates c.dfa
    rw [hdfa, inlinedStates_mapC]
  actions := rfl
  width := rfl
  input := rfl
  same := hsame

/-- the numbering of the right-context automata of a compiled definition is irrelevant: same simplified automaton up to renaming of the context
numbers of its accept entries, same entry map, and under the new numbers automata deciding the same as under the old ones (in particular equal
contexts may share one automaton, `g` need not be injective) — the generated lexers (the generator's inlining policy on either side) run
identically from every lexer state -/
theorem compiled_ctx_numbering_irrelevant (g : Nat → Nat) (c c' : Compiled)
    (hdfa : c'.dfa = c.dfa.map (DState.mapCTrans g)) (hent : c'.entries = c.entries)
    (hsame : ∀ i iter, ctxRun (c'.ctxs.getD (g i) []) 0 iter = ctxRun (c.ctxs.getD i []) 0 iter)
    (acts : Nat → Action σ τ ε) (width : Nat → Nat) (input : Option (List Nat)) (n : Nat) (st : LState σ) :
    runN (c'.config acts width input) n st = runN (c.config acts width input) n st :=
  runN_mapC g _ _ (compiled_ctxRenamed g c c' hdfa hent hsame acts width input) n st

end Lexgen

#print axioms Lexgen.next_mapC
#print axioms Lexgen.runN_mapC
#print axioms Lexgen.inlinedStates_mapC
#print axioms Lexgen.compiled_ctx_numbering_irrelevant
