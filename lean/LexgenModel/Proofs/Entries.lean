import LexgenModel.Exec.SpecRun
import LexgenModel.Proofs.EndToEnd
import LexgenModel.Proofs.Static
import LexgenModel.Proofs.SwitchTable
/-!
# The entry states of the compiled machine

The names of the entry map are distinct (`compile_names_nodup`), so a rule set has one entry
(`isEntryOf_unique`), and so are its states (`entries_states_inj`): the fold of `lexer()` gives `Init` the entry 0
and every later rule set the first state of the block `add_dfa` appends; these are initial states, which
`simplify` keeps, and `newIdx` is injective on kept states.  Every entry state is the entry of a rule set of the
definition, the one `activeSet` finds from its number (`activeSet_of_isEntry`, through `SwitchTable.lean`).
-/
namespace Lexgen
variable {σ τ ε : Type}

section
open Lexgen.Subset Lexgen.Static Lexgen.CompileLang

theorem nodup_names_append {l : List (String × Nat)} (hn : (l.map (·.1)).Nodup) {n : String}
    (hf : (l.find? (·.1 = n)).isSome = false) (idx : Nat) : ((l ++ [(n, idx)]).map (·.1)).Nodup := by
  rw [List.map_append, List.nodup_append]
  refine ⟨hn, List.nodup_cons.mpr ⟨List.not_mem_nil, List.nodup_nil⟩, fun a ha b hb hab => ?_⟩
  obtain ⟨q, hq, rfl⟩ := List.mem_map.mp ha
  have hqn : q.1 = n := hab.trans (List.mem_singleton.mp hb)
  have hnone := List.find?_eq_none.mp (Option.isSome_eq_false_iff.mp hf |> Option.isNone_iff_eq_none.mp) q hq
  exact hnone (decide_eq_true hqn)

theorem fold_names (items : LexerDef) (g g' : GlueState) (h : items.foldlM lexStep g = .ok g')
    (hn : (g.entries.map (·.1)).Nodup) : (g'.entries.map (·.1)).Nodup :=
  lexFold_induction (R := fun _ g => (g.entries.map Prod.fst).Nodup) (p0 := []) h hn
    (fun _ _ h _ => h) (fun _ _ _ _ h _ => h) (fun _ _ _ _ _ h _ => h)
    (fun _ _ _ _ _ _ _ idx h _ hf _ => nodup_names_append h hf idx)

theorem names_unique {l : List (String × Nat)} (hn : (l.map (·.1)).Nodup) {n : String} {e e' : Nat}
    (h1 : (n, e) ∈ l) (h2 : (n, e') ∈ l) : e = e' :=
  congrArg Prod.snd (inj_of_nodup_map (fun p : String × Nat => p.1) hn h1 h2 rfl)

end

open CompileLang Static in
theorem compile_names_nodup (items : LexerDef) (c : Compiled) (h : compileLexer items = .ok c) :
    (c.entries.map (·.1)).Nodup := by
  obtain ⟨_, g, d0, hfold, _, _, hs, _, _⟩ := compileLexer_ok_decomp h
  rw [(Simplify.simplify_ok _ _ _ _ hs).2, List.map_map]
  exact fold_names items {} g hfold List.nodup_nil

section
open Lexgen.Static Lexgen.CompileLang Lexgen.MachineOKCompile Lexgen.Simplify

/-- the entries recorded so far are pairwise distinct states of the automaton built so far, and there are none before `Init` -/
structure EntInv (g : GlueState) : Prop where
  nodup : (g.entries.map (·.2)).Nodup
  empty : g.initDfa = none → g.entries = []
  built : ∀ full, g.initDfa = some full →
    (g.entries.find? (·.1 = "Init")).isSome = true ∧ ∀ p ∈ g.entries, p.2 < full.length

theorem fold_entInv {items : LexerDef} {g : GlueState} (h : items.foldlM lexStep {} = .ok g) : EntInv g := by
  refine lexFold_induction (R := fun _ g => EntInv g) (p0 := []) h
    ⟨List.nodup_nil, fun _ => rfl, fun _ hf => (nomatch hf)⟩
    (fun _ _ hR _ => ⟨hR.nodup, hR.empty, hR.built⟩) (fun _ _ _ _ hR _ => ⟨hR.nodup, hR.empty, hR.built⟩)
    (fun _ _ _ _ _ hR _ => ⟨hR.nodup, hR.empty, hR.built⟩) ?_
  intro _ g n rs d ctxs full idx hR hc hf hcase
  have hpos : 0 < d.length := st_initial_lt (compileRuleSet_glue rs _ _ d ctxs hc).2.1
  rcases hcase with ⟨rfl, rfl, rfl⟩ | ⟨_, d0, hd, rfl, rfl⟩
  · -- nothing was recorded before `Init`: a second `Init` is a duplicate
    have hnil : g.entries = [] := by
      cases hd : g.initDfa with
      | none => exact hR.empty hd
      | some d0 => rw [(hR.built d0 hd).1] at hf; cases hf
    refine ⟨?_, fun hn => (nomatch hn), fun full hfull => ?_⟩
    · rw [hnil]
      exact List.pairwise_singleton _ _
    · cases hfull
      rw [hnil]
      exact ⟨rfl, fun p hp => by rw [List.mem_singleton.mp hp]; exact hpos⟩
  · -- the new block starts where the automaton built so far ends
    obtain ⟨hinit, hlt⟩ := hR.built d0 hd
    refine ⟨?_, fun hn => (nomatch hn), fun full hfull => ?_⟩
    · show ((g.entries ++ [(n, d0.length)]).map (·.2)).Nodup
      rw [List.map_append, List.nodup_append]
      refine ⟨hR.nodup, List.pairwise_singleton _ _, fun a ha b hb => ?_⟩
      obtain ⟨p, hp, rfl⟩ := List.mem_map.mp ha
      rw [List.mem_singleton.mp hb]
      exact Nat.ne_of_lt (hlt p hp)
    · cases hfull
      refine ⟨entries_append_isSome _ _ _ hinit, fun p hp => ?_⟩
      rw [(addDfa_spec d0 d).2.1]
      rcases List.mem_append.mp hp with hp | hp
      · exact Nat.lt_add_right _ (hlt p hp)
      · rw [List.mem_singleton.mp hp]
        exact Nat.lt_add_of_pos_right hpos

theorem newIdx_inj (d : DFA Nat) (s s' : Nat) (hs : (d.st s).initial = true) (hs' : (d.st s').initial = true)
    (h : newIdx d s = newIdx d s') : s = s' := by
  have hk : ∀ t, (d.st t).initial = true → (emptyStates d).contains t = false := by
    intro t ht
    rw [contains_emptyStates]
    simp [isEmpty, ht]
  have h1 := kept_getElem? d s (st_initial_lt hs) (hk s hs)
  have h2 := kept_getElem? d s' (st_initial_lt hs') (hk s' hs')
  rw [h, h2] at h1
  exact (Option.some.inj h1).symm

namespace RunCongr

-- `hrs` is not used
set_option linter.unusedVariables false in
theorem entries_states_inj (items : LexerDef) (c : Compiled) (h : compileLexer items = .ok c)
    (hrs : hasRuleSets items = true) :
    ∀ n n' e, (n, e) ∈ c.entries → (n', e) ∈ c.entries → n = n' := by
  obtain ⟨hT, hs, _, _, _, hsrc, _⟩ := compile_blocks h
  obtain ⟨_, g, _, hfold, _, _, _, he, _⟩ := compileLexer_ok_decomp h
  have hnd := (fold_entInv hfold).nodup
  rw [← he] at hnd
  -- entry states head the blocks of their rule sets, and those are initial
  have hini : ∀ p ∈ c.entries0, (c.full.st p.2).initial = true := by
    intro p hp
    obtain ⟨x, _, _, dR, cpre, ctxs', _, hc, _, hpl⟩ := hsrc p hp
    exact hpl.initial (compileRuleSet_glue _ _ _ dR ctxs' hc).2.1
  intro n n' e h1 h2
  rw [(simplify_spec _ _ _ _ hs hT).1] at h1 h2
  obtain ⟨p1, hp1, hpe1⟩ := List.mem_map.mp h1
  obtain ⟨p2, hp2, hpe2⟩ := List.mem_map.mp h2
  simp only [Prod.mk.injEq] at hpe1 hpe2
  have hst : p1.2 = p2.2 :=
    newIdx_inj c.full p1.2 p2.2 (hini p1 hp1) (hini p2 hp2) (hpe1.2.trans hpe2.2.symm)
  rw [← hpe1.1, ← hpe2.1, Subset.inj_of_nodup_map (fun p : String × Nat => p.2) hnd hp1 hp2 hst]

end RunCongr
end

open CompileLang in
theorem compile_entries_named (items : LexerDef) (c : Compiled) (h : compileLexer items = .ok c)
    (hrs : hasRuleSets items = true) :
    (c.entries.map (·.1)).Nodup ∧ ("Init", 0) ∈ c.entries ∧
    ∀ name e, (name, e) ∈ c.entries →
      ∃ rs b k rules, (name, rs, b, k) ∈ allRuleSets items ∧ e < c.dfa.length ∧ coreRules rs b k = some rules ∧
        ((∀ r ∈ rules, regexPiecesOK r.re) → RealisesRules c.dfa e rules) := by
  obtain ⟨hT, hs, _, _, _, hfrom, hinit⟩ := compile_blocks h
  have hent := (Simplify.simplify_ok _ _ _ _ hs).2
  refine ⟨compile_names_nodup items c h, ?_, fun name e hmem => ?_⟩
  · rw [hent]
    exact List.mem_map.mpr ⟨("Init", 0), hinit hrs, by rw [Simplify.newIdx_zero]⟩
  · rw [hent] at hmem
    obtain ⟨p, hp, hpe⟩ := List.mem_map.mp hmem
    obtain ⟨⟨xn, rs, b, k⟩, hx, hname, dR, hB⟩ := hfrom p hp
    obtain ⟨hlt, rules, hcore, hreal⟩ := hB.lang hT hs
    cases hpe
    exact ⟨rs, b, k, rules, (show xn = p.1 from hname) ▸ hx, hlt, hcore, hreal⟩

theorem isEntryOf_named {items : LexerDef} (hrs : hasRuleSets items = true) (c : Compiled) (name : String) (e : Nat) :
    IsEntryOf items c name e ↔ (name, e) ∈ c.entries := by
  unfold IsEntryOf
  rw [if_pos hrs]

theorem isEntryOf_unnamed {items : LexerDef} (hrs : hasRuleSets items = false) (c : Compiled) (name : String)
    (e : Nat) : IsEntryOf items c name e ↔ e = 0 := by
  unfold IsEntryOf
  rw [hrs, if_neg Bool.false_ne_true]

theorem isEntryOf_unique {items : LexerDef} {c : Compiled} (h : compileLexer items = .ok c) {name : String}
    {e e' : Nat} (h1 : IsEntryOf items c name e) (h2 : IsEntryOf items c name e') : e = e' := by
  cases hrs : hasRuleSets items with
  | true =>
    rw [isEntryOf_named hrs] at h1 h2
    exact names_unique (compile_names_nodup items c h) h1 h2
  | false =>
    rw [isEntryOf_unnamed hrs] at h1 h2
    exact h1.trans h2.symm

theorem activeSet_of_isEntry (items : LexerDef) (c : Compiled) (h : compileLexer items = .ok c) (hok : DefOK items)
    (actions : Nat → Action σ τ ε) (width : Nat → Nat) (input : Option (List Nat))
    (e : Nat) (he : IsEntry (c.config actions width input) e) :
    ∃ x, activeSet items (c.config actions width input) (renumber (c.config actions width input).inl e) = some x ∧
      x ∈ allRuleSets items ∧ IsEntryOf items c x.1 e := by
  cases hrs : hasRuleSets items with
  | true =>
    obtain ⟨_, hinit, hall⟩ := compile_entries_named items c h hrs
    obtain ⟨name, hne⟩ : ∃ name, (name, e) ∈ c.entries := he.elim (fun h0 => ⟨"Init", h0 ▸ hinit⟩) id
    obtain ⟨nm, hnm, hact⟩ := activeSet_entry_num items _
      (compileLexer_machineOK items c h hok actions width input) hrs hne
    obtain ⟨rs, b, k, _, hmem, _⟩ := hall nm e hnm
    obtain ⟨x, hx, hxm, hname⟩ := List.exists_find?_of_mem (p := (·.1 = nm)) hmem (decide_eq_true rfl)
    exact ⟨x, hact.trans hx, hxm, (isEntryOf_named hrs c x.1 e).mpr (of_decide_eq_true hname ▸ hnm)⟩
  | false =>
    have he0 : e = 0 := he.elim id fun ⟨name, hn⟩ => by
      have hn' : (name, e) ∈ c.entries := hn
      rw [(compileLexer_unnamed_core items c h hrs).2.1] at hn'
      cases hn'
    rw [he0, NextProtocol.renumber_zero, activeSet_unnamed items _ hrs, allRuleSets_unnamed hrs]
    exact ⟨_, rfl, List.mem_singleton.mpr rfl, (isEntryOf_unnamed hrs c _ 0).mpr rfl⟩

end Lexgen
