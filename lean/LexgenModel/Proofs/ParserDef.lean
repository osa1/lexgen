import LexgenModel.Spec.ParserDef
import LexgenModel.Proofs.Parser
import LexgenModel.Proofs.TokenTree
/-!
# The parser of lexer definitions inverts printing

`parseDef_printDef : WFDef d → parseDef (printDef d) = .ok d`, and `parseDef_indices`: on every input the parser numbers
the rules `0, 1, 2, …` in source order. Each parser function is characterised on each form of input, given what its
sub-parsers return, then on the printing of its construct followed by anything (`…_print`). The table is threaded: the
rules printed carry the indices `T.length, T.length + 1, …`, so the parser, which numbers them like that, builds them as
they are, and appends their entries of `tbl` to `T` (`map_getD_range`: all of `tbl` in the end). A printed definition is a
sequence of token trees (`Groups`, `Proofs/TokenTree.lean`) none of whose parenthesised groups has unconsumed content; that
is all `balanced`, `splitClose` and `cleanGroups` need.
-/
namespace Lexgen
namespace ParserDefProofs
open ParserProofs

theorem map_toTok_re (l : List Tok) : (l.map DTok.re).map DTok.toTok = l := by
  induction l with
  | nil => rfl
  | cons t l ih => simp only [List.map_cons, ih]; rfl

inductive Ends : List DTok → Prop
  | nil : Ends []
  | cons {t l s} : t.toTok = .other s → Ends (t :: l)

theorem parseRegexD_printsAs {r : Regex} {ts : List Tok} (h : PrintsAs r 0 ts) {rest : List DTok}
    (hrest : Ends rest) : parseRegexD (ts.map .re ++ rest) = some (r, rest) := by
  have hrest' : rest.map DTok.toTok = [] ∨ ∃ s l, rest.map DTok.toTok = .other s :: l := by
    cases hrest with
    | nil => exact .inl rfl
    | cons ht => exact .inr ⟨_, _, by rw [List.map_cons, ht]⟩
  obtain ⟨hstop, hclash⟩ := junction_of_other hrest' ts
  obtain ⟨f, hf⟩ := parse_printsAs_partial r 0 ts (by omega) h _ hstop hclash
  unfold parseRegexD
  rw [List.map_append, map_toTok_re, parseRegex_of_parse0 (hf f (Nat.le_refl _))]
  simp

theorem parseRegexD_print (r : Regex) (hp : Printable r) (rest : List DTok) (hrest : Ends rest) :
    parseRegexD (printRegexD r ++ rest) = some (r, rest) :=
  parseRegexD_printsAs (printRe_printsAs r hp 0) hrest

example : parseRegexD (printRegexD (.cat (.chr 97) .eoi) ++ [.comma]) = some (.cat (.chr 97) .eoi, [.comma]) := by
  rfl

theorem printRegexD_first (r : Regex) (hp : Printable r) :
    ∃ a l, printRegexD r = .re a :: l ∧ AtomTok a := by
  obtain ⟨a, l, h, ha⟩ := printsAs_first (printRe_printsAs r hp 0)
  exact ⟨a, l.map DTok.re, by rw [printRegexD, h]; rfl, ha⟩

theorem ends_printRhs (rhs : RuleRhs) (rest : List DTok) : Ends (printRhs rhs ++ rest) := by
  cases rhs <;> exact .cons rfl

theorem printRhs_ne_gt (rhs : RuleRhs) (rest l : List DTok) : printRhs rhs ++ rest ≠ .gt :: l := by
  cases rhs <;> exact nofun

theorem parseRhs_print (rhs : RuleRhs) (rest : List DTok) :
    parseRhs (printRhs rhs ++ rest) = .ok (rhs, rest) := by
  cases rhs <;> rfl

theorem parseRegexCtx_print (re : Regex) (ctx : Option Regex) (hre : Printable re)
    (hctx : ∀ c, ctx = some c → Printable c) (rest : List DTok) (hrest : Ends rest)
    (hgt : ∀ l, rest ≠ .gt :: l) :
    parseRegexCtx (printRegexD re ++ printCtx ctx ++ rest) = some (re, ctx, rest) := by
  unfold parseRegexCtx
  cases ctx with
  | none =>
    rw [printCtx, List.append_nil, parseRegexD_print re hre rest hrest]
    split
    · rename_i h; cases h
    · rename_i h; cases h; exact absurd rfl (hgt _)
    · rename_i h; cases h; rfl
  | some c =>
    rw [printCtx, List.append_assoc, List.cons_append, parseRegexD_print re hre _ (.cons rfl)]
    dsimp only
    rw [parseRegexD_print c (hctx c rfl) rest hrest]

def RobStart (ts : List DTok) : Prop :=
  ∃ t l, ts = t :: l ∧ (t = .kwLet ∨ ∃ a, t = .re a ∧ AtomTok a)

theorem atomTok_ne_ident {a : Tok} (h : AtomTok a) (s : String) : a ≠ .ident s := by
  rintro rfl
  cases h []

section
variable {T T1 T2 : List RuleRhs} {ts ts1 ts2 rest : List DTok} {x : RuleOrBinding} {xs : List RuleOrBinding}

theorem parseRuleOrBinding_let (T : List RuleRhs) (x : String) {re : Regex}
    (h : parseRegexD ts = some (re, .semi :: rest)) :
    parseRuleOrBinding T (.kwLet :: .re (.ident x) :: .eq :: ts) = .ok (.binding x re, T, rest) := by
  unfold parseRuleOrBinding
  simp only [h]

theorem parseRuleOrBinding_rule {re : Regex} {ctx : Option Regex} {rhs : RuleRhs} (h : ∀ l, ts ≠ .kwLet :: l)
    (h1 : parseRegexCtx ts = some (re, ctx, ts1)) (h2 : parseRhs ts1 = .ok (rhs, rest)) :
    parseRuleOrBinding T ts = .ok (.rule { re := re, ctx := ctx, rhs := T.length }, T ++ [rhs], rest) := by
  unfold parseRuleOrBinding
  split
  · exact absurd rfl (h _)
  · exact absurd rfl (h _)
  · simp only [h1, h2]

theorem parseRuleSetBody_cons {fuel : Nat} (h : RobStart ts) (h1 : parseRuleOrBinding T ts = .ok (x, T1, ts1))
    (h2 : parseRuleSetBody fuel T1 ts1 = .ok (xs, T2, ts2)) :
    parseRuleSetBody (fuel + 1) T ts = .ok (x :: xs, T2, ts2) := by
  obtain ⟨t, l, rfl, ht⟩ := h
  rw [parseRuleSetBody.eq_3, h1]
  · dsimp only
    rw [h2]
  · intro ts' hts
    rcases ht with rfl | ⟨a, rfl, _⟩ <;> cases hts

theorem parseTopItem_errorType (T : List RuleRhs) (ty : Nat) (rest : List DTok) :
    parseTopItem T (.kwType :: .re (.ident "Error") :: .eq :: .expr ty :: .semi :: rest) =
      .ok (.errorType, some ty, T, rest) := by
  unfold parseTopItem
  rfl

theorem parseTopItem_ruleSet (name : String) (h : parseRuleSetBody ts1.length T ts1 = .ok (xs, T1, ts2)) :
    parseTopItem T (.re (.ident "rule") :: .re (.ident name) :: .lbrace :: ts1) =
      .ok (.ruleSet name xs, none, T1, skipComma ts2) := by
  unfold parseTopItem
  simp only [h, if_true]

theorem parseTopItem_rb (h : RobStart ts) (h1 : parseRuleOrBinding T ts = .ok (x, T1, rest)) :
    parseTopItem T ts = .ok (.rb x, none, T1, rest) := by
  obtain ⟨t, l, rfl, ht⟩ := h
  rw [parseTopItem.eq_6, h1]
  · intro s ts' hts
    rcases ht with rfl | ⟨a, rfl, ha⟩
    · cases hts
    · cases hts
      exact atomTok_ne_ident ha s rfl
  · intro s ts' hts
    rcases ht with rfl | ⟨a, rfl, ha⟩ <;> cases hts
  · intro ts' hts
    rcases ht with rfl | ⟨a, rfl, ha⟩ <;> cases hts

theorem parseItems_cons {fuel : Nat} {x : TopItem} {ty : Option Nat} {xs : LexerDef} {tys : List Nat} (hne : ts ≠ [])
    (h1 : parseTopItem T ts = .ok (x, ty, T1, ts1)) (h2 : parseItems fuel T1 ts1 = .ok (xs, T2, tys)) :
    parseItems (fuel + 1) T ts = .ok (x :: xs, T2, ty.toList ++ tys) := by
  rw [parseItems.eq_3 _ _ _ hne, h1]
  dsimp only
  rw [h2]

end

/-- the item the parser builds for a printed rule or binding -/
def renumRob (n : Nat) : RuleOrBinding → RuleOrBinding
  | .rule r => .rule { r with rhs := n }
  | .binding x re => .binding x re

theorem robIndices_append (a b : List RuleOrBinding) : robIndices (a ++ b) = robIndices a ++ robIndices b := by
  induction a with
  | nil => rfl
  | cons x xs ih => cases x <;> simp only [List.cons_append, robIndices, ih]

theorem itemIndices_cons (x : TopItem) (xs : LexerDef) :
    itemIndices (x :: xs) = itemIndices [x] ++ itemIndices xs := by
  cases x <;> simp only [itemIndices, List.append_nil, List.nil_append]

theorem parseRuleOrBinding_print (tbl : List RuleRhs) (x : RuleOrBinding) (hp : RobPrintable x)
    (T : List RuleRhs) (rest : List DTok) :
    parseRuleOrBinding T (printRob tbl x ++ rest) =
      .ok (renumRob T.length x, T ++ (robIndices [x]).map (tbl.getD · .none), rest) := by
  cases x with
  | binding x re =>
    simp only [printRob, List.append_assoc, List.cons_append, List.nil_append]
    rw [parseRuleOrBinding_let T x (parseRegexD_print re hp _ (.cons rfl))]
    show _ = Except.ok (_, T ++ [], rest)
    rw [List.append_nil]; rfl
  | rule r =>
    obtain ⟨hre, hctx⟩ : Printable r.re ∧ ∀ c, r.ctx = some c → Printable c := hp
    obtain ⟨a, l, hfirst, ha⟩ := printRegexD_first r.re hre
    refine parseRuleOrBinding_rule ?_ (List.append_assoc .. ▸ parseRegexCtx_print r.re r.ctx hre hctx _
      (ends_printRhs _ rest) (printRhs_ne_gt _ _)) (parseRhs_print _ _)
    rw [printRob, hfirst]
    exact fun _ => nofun

theorem printRob_start (tbl : List RuleRhs) (x : RuleOrBinding) (hp : RobPrintable x) :
    printRob tbl x ≠ [] ∧ ∀ rest, RobStart (printRob tbl x ++ rest) := by
  cases x with
  | binding x re => exact ⟨List.cons_ne_nil _ _, fun _ => ⟨.kwLet, _, rfl, .inl rfl⟩⟩
  | rule r =>
    obtain ⟨a, l, hfirst, ha⟩ := printRegexD_first r.re hp.1
    rw [printRob, hfirst]
    exact ⟨List.cons_ne_nil _ _, fun _ => ⟨.re a, _, rfl, .inr ⟨a, rfl, ha⟩⟩⟩

/-- a loop with one round of fuel per token has a round left behind a nonempty prefix -/
theorem fuel_step {pre ts : List DTok} {fuel : Nat} (hne : pre ≠ []) (h : (pre ++ ts).length < fuel) :
    ∃ f, fuel = f + 1 ∧ ts.length < f := by
  obtain ⟨f, rfl⟩ := Nat.exists_eq_add_one_of_ne_zero (Nat.ne_zero_of_lt h)
  cases pre with
  | nil => exact absurd rfl hne
  | cons t l =>
    have hle : ts.length ≤ (l ++ ts).length := by rw [List.length_append]; exact Nat.le_add_left _ _
    exact ⟨f, rfl, Nat.lt_of_le_of_lt hle (Nat.lt_of_succ_lt_succ h)⟩

/-- the parser gives a rule the index `T.length`: a rule that carries it already is built as it is -/
theorem renumRob_self (x : RuleOrBinding) (n : Nat) (h : robIndices [x] = List.range' n (robIndices [x]).length) :
    renumRob n x = x := by
  cases x with
  | binding x re => rfl
  | rule r =>
    simp [robIndices] at h
    subst h
    rfl

theorem range'_split {a b : List Nat} {n : Nat} (h : a ++ b = List.range' n (a ++ b).length) :
    a = List.range' n a.length ∧ b = List.range' (n + a.length) b.length := by
  rw [List.length_append, ← List.range'_append_1] at h
  exact List.append_inj h List.length_range'.symm

variable (tbl : List RuleRhs)

theorem parseRuleSetBody_print (rules : List RuleOrBinding)
    (hp : ∀ x ∈ rules, RobPrintable x) (T : List RuleRhs) (rest : List DTok) (fuel : Nat)
    (hf : (printRobs tbl rules).length < fuel)
    (hi : robIndices rules = List.range' T.length (robIndices rules).length) :
    parseRuleSetBody fuel T (printRobs tbl rules ++ .rbrace :: rest) =
      .ok (rules, T ++ (robIndices rules).map (tbl.getD · .none), rest) := by
  induction rules generalizing T fuel with
  | nil =>
    obtain ⟨f, rfl⟩ := Nat.exists_eq_add_one_of_ne_zero (Nat.ne_zero_of_lt hf)
    show _ = Except.ok (_, T ++ [], rest)
    rw [List.append_nil]; rfl
  | cons x xs ih =>
    have hx : RobPrintable x := hp x List.mem_cons_self
    obtain ⟨hne, hstart⟩ := printRob_start tbl x hx
    obtain ⟨f, rfl, hf'⟩ := fuel_step hne hf
    rw [show robIndices (x :: xs) = _ from robIndices_append [x] xs] at hi ⊢
    obtain ⟨hix, hixs⟩ := range'_split hi
    show parseRuleSetBody _ _ (printRob tbl x ++ printRobs tbl xs ++ _) = _
    rw [List.append_assoc, parseRuleSetBody_cons (hstart _) (parseRuleOrBinding_print tbl x hx T _)
      (ih (fun y hy => hp y (List.mem_cons_of_mem _ hy)) _ f hf'
        (by rw [List.length_append, List.length_map]; exact hixs)),
      renumRob_self x _ hix, List.append_assoc, ← List.map_append]

theorem printItemsD_ruleSet (name : String) (rules : List RuleOrBinding) (is : LexerDef)
    (tys : List Nat) :
    printItemsD tbl (.ruleSet name rules :: is) tys =
      .re (.ident "rule") :: .re (.ident name) :: .lbrace ::
        (printRobs tbl rules ++ .rbrace :: printItemsD tbl is tys) := by
  show _ ++ _ ++ _ ++ _ = _
  rw [List.append_assoc, List.append_assoc]
  rfl

/-- no item starts with the optional comma behind a rule set -/
theorem skipComma_printItemsD (items : LexerDef)
    (hp : ∀ it ∈ items, ItemPrintable it) (tys : List Nat) :
    skipComma (printItemsD tbl items tys) = printItemsD tbl items tys := by
  cases items with
  | nil => rfl
  | cons it is =>
    cases it with
    | errorType | ruleSet => rfl
    | rb x =>
      obtain ⟨t, l, h, ht⟩ := (printRob_start tbl x (hp (.rb x) List.mem_cons_self)).2 (printItemsD tbl is tys)
      show skipComma (printRob tbl x ++ _) = printRob tbl x ++ _
      rw [h]
      rcases ht with rfl | ⟨a, rfl, _⟩ <;> rfl

theorem parseItems_print (items : LexerDef)
    (hp : ∀ it ∈ items, ItemPrintable it) (tys : List Nat) (hty : errorTypeCount items ≤ tys.length)
    (T : List RuleRhs) (fuel : Nat) (hf : (printItemsD tbl items tys).length < fuel)
    (hi : itemIndices items = List.range' T.length (itemIndices items).length) :
    parseItems fuel T (printItemsD tbl items tys) =
      .ok (items, T ++ (itemIndices items).map (tbl.getD · .none),
        tys.take (errorTypeCount items)) := by
  induction items generalizing tys T fuel with
  | nil =>
    obtain ⟨f, rfl⟩ := Nat.exists_eq_add_one_of_ne_zero (Nat.ne_zero_of_lt hf)
    show _ = Except.ok (_, T ++ [], _)
    rw [List.append_nil]; rfl
  | cons it is ih =>
    have his : ∀ it ∈ is, ItemPrintable it := fun y hy => hp y (List.mem_cons_of_mem _ hy)
    cases it with
    | errorType =>
      cases tys with
      | nil => exact absurd hty (Nat.not_succ_le_zero _)
      | cons ty tys =>
        obtain ⟨f, rfl, hf'⟩ := fuel_step (pre := [_, _, _, _, _]) (ts := printItemsD tbl is tys)
          (List.cons_ne_nil _ _) hf
        exact parseItems_cons (List.cons_ne_nil _ _) (parseTopItem_errorType T ty _)
          (ih his tys (Nat.le_of_succ_le_succ hty) T f hf' hi)
    | rb x =>
      have hx : RobPrintable x := hp (.rb x) List.mem_cons_self
      obtain ⟨hne, hstart⟩ := printRob_start tbl x hx
      obtain ⟨f, rfl, hf'⟩ := fuel_step hne hf
      show parseItems _ _ (printRob tbl x ++ printItemsD tbl is tys) = _
      obtain ⟨hix, hiis⟩ := range'_split (a := robIndices [x]) (b := itemIndices is) hi
      rw [parseItems_cons (List.append_ne_nil_of_left_ne_nil hne _)
          (parseTopItem_rb (hstart _) (parseRuleOrBinding_print tbl x hx T _))
        (ih his tys hty _ f hf' (by rw [List.length_append, List.length_map]; exact hiis)),
        renumRob_self x _ hix, List.append_assoc, ← List.map_append]
      rfl
    | ruleSet name rules =>
      have hr : ∀ x ∈ rules, RobPrintable x := hp (.ruleSet name rules) List.mem_cons_self
      obtain ⟨f, rfl, hf'⟩ := fuel_step (pre := [_, _, _] ++ _ ++ [_]) (ts := printItemsD tbl is tys)
        (List.cons_ne_nil _ _) hf
      obtain ⟨hix, hiis⟩ := range'_split (a := robIndices rules) (b := itemIndices is) hi
      have hbody := parseRuleSetBody_print tbl rules hr T (printItemsD tbl is tys)
        (printRobs tbl rules ++ .rbrace :: printItemsD tbl is tys).length
        (by rw [List.length_append]; exact Nat.lt_add_of_pos_right (Nat.succ_pos _)) hix
      rw [printItemsD_ruleSet]
      refine (parseItems_cons (List.cons_ne_nil _ _) (parseTopItem_ruleSet name hbody)
        ((skipComma_printItemsD tbl is his tys).symm ▸ ih his tys hty _ f hf'
          (by rw [List.length_append, List.length_map]; exact hiis))).trans ?_
      rw [List.append_assoc, ← List.map_append]
      rfl

theorem map_getD_range :
    (List.range tbl.length).map (fun i => tbl.getD i .none) = tbl := by
  apply List.ext_getElem
  · simp
  · intro i h1 h2
    simp at h1
    simp [h1]

theorem parseAttrs_print (as : List Nat) (X : List DTok) (h : ∀ n l, X ≠ .attr n :: l) :
    parseAttrs (as.map DTok.attr ++ X) = (as, X) := by
  induction as with
  | nil =>
    simp only [List.map_nil, List.nil_append]
    unfold parseAttrs
    split
    · exact absurd rfl (h _ _)
    · rfl
  | cons a as ih => simp [parseAttrs, ih]

theorem parseHeader_print (h : Header) (rest : List DTok) :
    parseHeader (printHeader h ++ rest) = some (h, false, rest) := by
  obtain ⟨attrs, vis, name, stateTy, tokenTy⟩ := h
  unfold parseHeader printHeader
  rw [List.append_assoc, List.append_assoc, List.append_assoc, List.append_assoc,
    parseAttrs_print attrs _ (by cases vis <;> exact nofun)]
  cases vis <;> cases stateTy <;> rfl

theorem groups_items {P : List DTok → Prop} {items : List CharOrRange} {ts : List Tok}
    (h : ItemsPrint items ts) : Groups P (ts.map .re) := by
  induction h with
  | nil => exact .nil
  | chr _ ih => exact .tok rfl rfl ih
  | rng _ ih => exact .tok rfl rfl (.tok rfl rfl (.tok rfl rfl ih))

/-- One induction over the printing relation serves `balanced`, `splitClose` and `cleanGroups`; a
parenthesised sub-printing parses back entirely by the round trip itself. -/
theorem groups_printsAs {r : Regex} {k : Nat} {ts : List Tok} (h : PrintsAs r k ts) :
    Groups NoJunk (ts.map .re) := by
  induction h with
  | @paren r _ ts h ih =>
    have hn : NoJunk (ts.map .re) := fun r' junk hj => by
      have := parseRegexD_printsAs h .nil
      rw [List.append_nil, hj] at this
      cases this; rfl
    simpa only [List.map_cons, List.map_append, List.map_nil, List.cons_append] using
      Groups.group .paren (fun _ => hn) ih .nil
  | builtin | var | chr | str | any | eoi => exact .plain _ rfl
  | set _ hi =>
    simpa only [List.map_cons, List.map_append, List.map_nil, List.cons_append] using
      Groups.group (P := NoJunk) .bracket nofun (groups_items hi) .nil
  | star _ _ ih | plus _ _ ih | opt _ _ ih => rw [List.map_append]; exact ih.append (.plain [_] rfl)
  | cat _ _ _ _ iha ihb => rw [List.map_append]; exact iha.append ihb
  | alt _ _ _ iha ihb | diff _ _ _ iha ihb => rw [List.map_append]; exact iha.append (.tok rfl rfl ihb)

theorem groups_printRegexD (r : Regex) (hp : Printable r) : Groups NoJunk (printRegexD r) :=
  groups_printsAs (printRe_printsAs r hp 0)

theorem groups_printRob (x : RuleOrBinding) (hp : RobPrintable x) :
    Groups NoJunk (printRob tbl x) := by
  cases x with
  | binding x re => exact ((Groups.plain _ rfl).append (groups_printRegexD re hp)).append (.plain _ rfl)
  | rule r =>
    obtain ⟨hre, hctx⟩ : Printable r.re ∧ ∀ c, r.ctx = some c → Printable c := hp
    refine ((groups_printRegexD _ hre).append ?_).append ?_
    · cases hc : r.ctx with
      | none => exact .nil
      | some c => exact .tok rfl rfl (groups_printRegexD c (hctx c hc))
    · cases tbl.getD r.rhs .none <;> exact .plain _ rfl

theorem groups_printRobs (rules : List RuleOrBinding)
    (hp : ∀ x ∈ rules, RobPrintable x) : Groups NoJunk (printRobs tbl rules) := by
  induction rules with
  | nil => exact .nil
  | cons x xs ih =>
    exact (groups_printRob tbl x (hp x List.mem_cons_self)).append
      (ih fun y hy => hp y (List.mem_cons_of_mem _ hy))

theorem groups_printItemsD (items : LexerDef)
    (hp : ∀ it ∈ items, ItemPrintable it) (tys : List Nat) : Groups NoJunk (printItemsD tbl items tys) := by
  induction items generalizing tys with
  | nil => exact .nil
  | cons it is ih =>
    have his : ∀ it ∈ is, ItemPrintable it := fun y hy => hp y (List.mem_cons_of_mem _ hy)
    cases it with
    | errorType => exact .toks _ rfl (ih his _)
    | rb x => exact (groups_printRob tbl x (hp (.rb x) List.mem_cons_self)).append (ih his _)
    | ruleSet name rules =>
      have hr : ∀ x ∈ rules, RobPrintable x := hp (.ruleSet name rules) List.mem_cons_self
      rw [printItemsD_ruleSet]
      exact .tok rfl rfl (.tok rfl rfl (.group .brace nofun (groups_printRobs tbl rules hr) (ih his tys)))

theorem groups_printHeader (h : Header) : Groups NoJunk (printHeader h) := by
  refine ((((?_ : Groups _ (h.attrs.map .attr)).append ?_).append (.plain [_] rfl)).append ?_).append
    (.plain _ rfl)
  · induction h.attrs with
    | nil => exact .nil
    | cons a as ih => exact .tok rfl rfl ih
  · cases h.vis <;> exact .plain _ rfl
  · cases h.stateTy with
    | none => exact .nil
    | some t => exact .group .paren (fun _ _ _ hj => nomatch hj) (.plain [_] rfl) .nil

/-- From `T` to `T'` the table grew by one entry per index in `idx`, and these count up from
`T.length`: what `SemanticActionTable::add` leaves behind. -/
def Numbered (T T' : List RuleRhs) (idx : List Nat) : Prop :=
  ∃ k, T'.length = T.length + k ∧ idx = List.range' T.length k

theorem Numbered.refl (T : List RuleRhs) : Numbered T T [] := ⟨0, rfl, rfl⟩

theorem Numbered.trans {T T1 T2 : List RuleRhs} {a b : List Nat} (h1 : Numbered T T1 a)
    (h2 : Numbered T1 T2 b) : Numbered T T2 (a ++ b) := by
  obtain ⟨k1, hl1, rfl⟩ := h1
  obtain ⟨k2, hl2, rfl⟩ := h2
  exact ⟨k1 + k2, by rw [hl2, hl1, Nat.add_assoc], by rw [hl1, List.range'_append_1]⟩

variable {T T' : List RuleRhs} {ts rest : List DTok}

theorem parseRuleOrBinding_indices {x : RuleOrBinding} (h : parseRuleOrBinding T ts = .ok (x, T', rest)) :
    Numbered T T' (robIndices [x]) := by
  revert h
  fun_cases parseRuleOrBinding T ts <;> intro h <;> cases h
  · exact .refl T
  · exact ⟨1, List.length_append, rfl⟩

theorem parseRuleSetBody_indices (fuel : Nat) {xs : List RuleOrBinding}
    (h : parseRuleSetBody fuel T ts = .ok (xs, T', rest)) : Numbered T T' (robIndices xs) := by
  fun_induction parseRuleSetBody fuel T ts generalizing xs T' rest <;> cases h
  · exact .refl _
  · rename_i x _ _ h1 ys _ _ h2 ih
    exact robIndices_append [x] ys ▸ (parseRuleOrBinding_indices h1).trans (ih h2)

theorem parseTopItem_indices {x : TopItem} {ty : Option Nat} (h : parseTopItem T ts = .ok (x, ty, T', rest)) :
    Numbered T T' (itemIndices [x]) ∧ errorTypeCount [x] = ty.toList.length := by
  revert h
  fun_cases parseTopItem T ts <;> intro h <;> cases h
  · rename_i h2
    exact ⟨(parseRuleSetBody_indices _ h2).trans (.refl _), rfl⟩
  · exact ⟨.refl T, rfl⟩
  · rename_i h1
    exact ⟨(parseRuleOrBinding_indices h1).trans (.refl _), rfl⟩

theorem errorTypeCount_cons (x : TopItem) (xs : LexerDef) :
    errorTypeCount (x :: xs) = errorTypeCount [x] + errorTypeCount xs := by
  cases x with
  | errorType => exact Nat.add_comm _ 1
  | _ => exact (Nat.zero_add _).symm

theorem parseItems_indices (fuel : Nat) {xs : LexerDef} {tys : List Nat}
    (h : parseItems fuel T ts = .ok (xs, T', tys)) :
    Numbered T T' (itemIndices xs) ∧ errorTypeCount xs = tys.length := by
  fun_induction parseItems fuel T ts generalizing xs T' tys <;> cases h
  · exact ⟨.refl _, rfl⟩
  · rename_i x ty _ _ h1 ys _ tys2 h2 ih
    obtain ⟨hi1, he1⟩ := parseTopItem_indices h1
    obtain ⟨hi2, he2⟩ := ih h2
    exact ⟨itemIndices_cons x ys ▸ hi1.trans hi2, by rw [errorTypeCount_cons, he1, he2, List.length_append]⟩

end ParserDefProofs

/-- Printing a well-formed definition and parsing the tokens gives the definition back: header,
items with their action-table indices, the table (hence every rule's kind) and the error types. -/
theorem parseDef_printDef (d : ParsedDef) (h : WFDef d) : parseDef (printDef d) = .ok d := by
  obtain ⟨hdr, items, tbl, tys⟩ := d
  obtain ⟨hp, hidx, hty⟩ := h
  simp only at hp hidx hty
  have hitems := ParserDefProofs.groups_printItemsD tbl items hp tys
  unfold parseDef printDef
  rw [if_pos ((ParserDefProofs.groups_printHeader hdr).append hitems).balanced]
  rw [ParserDefProofs.parseHeader_print]
  simp only [hitems.cleanGroups]
  rw [ParserDefProofs.parseItems_print tbl items hp tys (Nat.le_of_eq hty) [] _ (Nat.lt_succ_self _)
    (by rw [hidx, List.range_eq_range']; simp)]
  have h2 : (itemIndices items).map (tbl.getD · .none) = tbl := by
    rw [hidx, ParserDefProofs.map_getD_range]
  rw [List.nil_append, h2, hty, List.take_length]
  rfl

/-- What the parser returns — on any input — has the rules numbered `0, 1, 2, …` in source order, one
table entry per rule, and one error type per `type Error` item: `WFDef` up to printability. -/
theorem parseDef_indices {ts : List DTok} {d : ParsedDef} (h : parseDef ts = .ok d) :
    itemIndices d.items = List.range d.table.length ∧ errorTypeCount d.items = d.errorTypes.length := by
  revert h
  fun_cases parseDef ts <;> intro h <;> cases h
  rename_i h1 _
  obtain ⟨⟨k, hl, hi⟩, he⟩ := ParserDefProofs.parseItems_indices _ h1
  simp only [List.length_nil, Nat.zero_add] at hl hi
  exact ⟨by rw [hi, hl, List.range_eq_range'], he⟩

deriving instance DecidableEq for Except

/-- ```
#[a7] pub Lexer(S0) -> T1;
let x = 'a';
type Error = T2;
rule Init {
    $x 'b'* > 'c' = e3,
    let y = 'd' | _;
    'd',
}
"ef" =? e4,
_ > $ => e5,
``` -/
def parserExDef : ParsedDef where
  header := { attrs := [7], vis := some 0, name := "Lexer", stateTy := some 0, tokenTy := 1 }
  items := [
    .rb (.binding "x" (.chr 97)),
    .errorType,
    .ruleSet "Init" [
      .rule { re := .cat (.var "x") (.star (.chr 98)), ctx := some (.chr 99), rhs := 0 },
      .binding "y" (.alt (.chr 100) .any),
      .rule { re := .chr 100, ctx := none, rhs := 1 }],
    .rb (.rule { re := .str [101, 102], ctx := none, rhs := 2 }),
    .rb (.rule { re := .any, ctx := some .eoi, rhs := 3 })]
  table := [.simple 3, .none, .fallible 4, .infallible 5]
  errorTypes := [2]

/-- the printing of a definition with a rule set, a right context and all four rule kinds -/
example : printDef parserExDef =
    [.attr 7, .vis 0, .re (.ident "Lexer"), .re .lparen, .expr 0, .re .rparen, .rarrow, .expr 1, .semi,
     .kwLet, .re (.ident "x"), .eq, .re (.chr 97), .semi,
     .kwType, .re (.ident "Error"), .eq, .expr 2, .semi,
     .re (.ident "rule"), .re (.ident "Init"), .lbrace,
       .re .dollar, .re (.ident "x"), .re (.chr 98), .re .star, .gt, .re (.chr 99), .eq, .expr 3, .comma,
       .kwLet, .re (.ident "y"), .eq, .re (.chr 100), .re .bar, .re .underscore, .semi,
       .re (.chr 100), .comma,
     .rbrace,
     .re (.str [101, 102]), .eq, .re .question, .expr 4, .comma,
     .re .underscore, .gt, .re .dollar, .fatArrow, .expr 5, .comma] := rfl

example : parseDef (printDef parserExDef) = .ok parserExDef := by decide +kernel

example : parserExDef.kinds = [.simple, .none, .fallible, .infallible] := rfl

/-- the round trip of `parserExDef` by the theorem instead of evaluation -/
theorem parserExDef_wf : WFDef parserExDef where
  printable := by
    intro it hit
    simp only [parserExDef, List.mem_cons, List.not_mem_nil, or_false] at hit
    rcases hit with rfl | rfl | rfl | rfl | rfl
    · exact True.intro
    · exact True.intro
    · intro x hx
      simp only [List.mem_cons, List.not_mem_nil, or_false] at hx
      rcases hx with rfl | rfl | rfl
      -- the one junction to check: `$x` does not end in `$`
      · exact ⟨⟨True.intro, True.intro, fun h => absurd h.1 (by decide)⟩,
          fun c hc => by cases hc; exact True.intro⟩
      · exact ⟨True.intro, True.intro⟩
      · exact ⟨True.intro, nofun⟩
    · exact ⟨True.intro, nofun⟩
    · exact ⟨True.intro, fun c hc => by cases hc; exact True.intro⟩
  indices := by decide
  errorTypes := by decide

example : parseDef (printDef parserExDef) = .ok parserExDef := parseDef_printDef parserExDef parserExDef_wf

/-- the trailing comma after a rule set is optional; indices continue across rule sets -/
example : parseDef [.re (.ident "L"), .rarrow, .expr 0, .semi,
      .re (.ident "rule"), .re (.ident "A"), .lbrace, .re (.chr 97), .comma, .rbrace, .comma,
      .re (.chr 98), .fatArrow, .expr 1, .comma] =
    .ok { header := { attrs := [], vis := none, name := "L", stateTy := none, tokenTy := 0 },
          items := [.ruleSet "A" [.rule { re := .chr 97, ctx := none, rhs := 0 }],
                    .rb (.rule { re := .chr 98, ctx := none, rhs := 1 })],
          table := [.none, .infallible 1], errorTypes := [] } := by decide +kernel

/-- `syn` errors: `let x 'a';` (no `=`), an identifier that is not `rule`, a rule inside a rule set
without its comma, unbalanced delimiters -/
example : parseDef [.re (.ident "L"), .rarrow, .expr 0, .semi,
    .kwLet, .re (.ident "x"), .re (.chr 97), .semi] = .error .syn := by decide +kernel
example : parseDef [.re (.ident "L"), .rarrow, .expr 0, .semi,
    .re (.ident "rules"), .re (.ident "A"), .lbrace, .rbrace] = .error .syn := by decide +kernel
example : parseDef [.re (.ident "L"), .rarrow, .expr 0, .semi,
    .re (.ident "rule"), .re (.ident "A"), .lbrace, .re (.chr 97), .eq, .expr 1, .rbrace] = .error .syn := by decide +kernel
example : parseDef [.re (.ident "L"), .rarrow, .expr 0, .semi, .re (.chr 97), .re .rparen] = .error .syn := by decide +kernel

/-- panics: a regex followed by none of `,` `=>` `=` (here `;`, and the end of the input), and
`type Foo` -/
example : parseDef [.re (.ident "L"), .rarrow, .expr 0, .semi, .re (.chr 97), .semi] = .error .panic := by decide +kernel
example : parseDef [.re (.ident "L"), .rarrow, .expr 0, .semi, .re (.chr 97)] = .error .panic := by decide +kernel
example : parseDef [.re (.ident "L"), .rarrow, .expr 0, .semi,
    .kwType, .re (.ident "Foo"), .eq, .expr 1, .semi] = .error .panic := by decide +kernel

/-- a group whose content is not consumed entirely is an error only at the end: `('a' -),` is a `syn`
error, but in `('a' -);` the panic comes first -/
example : parseDef [.re (.ident "L"), .rarrow, .expr 0, .semi,
    .re .lparen, .re (.chr 97), .re .minus, .re .rparen, .comma] = .error .syn := by decide +kernel
example : parseDef [.re (.ident "L"), .rarrow, .expr 0, .semi,
    .re .lparen, .re (.chr 97), .re .minus, .re .rparen, .semi] = .error .panic := by decide +kernel

end Lexgen
