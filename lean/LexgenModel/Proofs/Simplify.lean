import LexgenModel.Proofs.Glue
import LexgenModel.Proofs.TableLookup
/-!
# `DFA::add_dfa` and `simplify`: index arithmetic and behaviour preservation
-/
namespace Lexgen
namespace Simplify

theorem lookupChar_map {α β : Type} (f : α → β) (l : List (Nat × α)) (c : Nat) :
    lookupChar (l.map fun e => (e.1, f e.2)) c = (lookupChar l c).map f := by
  induction l with
  | nil => rfl
  | cons e l ih =>
    obtain ⟨k, t⟩ := e
    simp only [List.map_cons, lookupChar]
    by_cases hk : k = c
    · simp [hk]
    · simp [hk, ih]

theorem rangeLookup_mapVals {α β : Type} (f : α → β) (l : RangeMap α) (c : Nat) :
    RangeMap.lookup (RangeMap.mapVals f l) c = (RangeMap.lookup l c).map f := by
  induction l with
  | nil => rfl
  | cons e l ih =>
    obtain ⟨s, e, v⟩ := e
    simp only [RangeMap.mapVals, List.map_cons, RangeMap.lookup]
    by_cases hk : s ≤ c ∧ c ≤ e
    · simp [hk]
    · simp only [RangeMap.mapVals] at ih
      simp [hk, ih]

theorem lookupTrans_map {α β : Type} (f : α → β) (s : DState α) (s' : DState β)
    (hc : s'.chars = s.chars.map fun e => (e.1, f e.2))
    (hr : s'.ranges = RangeMap.mapVals f s.ranges)
    (ha : s'.any = s.any.map f) (c : Nat) :
    lookupTrans s' c = (lookupTrans s c).map f := by
  unfold lookupTrans
  rw [hc, hr, ha, lookupChar_map, rangeLookup_mapVals]
  cases lookupChar s.chars c with
  | some t => rfl
  | none =>
    cases RangeMap.lookup s.ranges c with
    | some t => rfl
    | none => rfl

theorem st_eq_of_getElem? {τ : Type} (d : DFA τ) (i : Nat) (x : DState τ) (h : d[i]? = some x) :
    d.st i = x := by
  unfold DFA.st
  rw [List.getD_eq_getElem?_getD, h]
  rfl

theorem getElem?_st {τ : Type} (d : DFA τ) (i : Nat) (h : i < d.length) : d[i]? = some (d.st i) := by
  unfold DFA.st
  rw [List.getD_eq_getElem?_getD, List.getElem?_eq_getElem h]
  rfl

theorem st_append_left {τ : Type} (d e : DFA τ) (s : Nat) (h : s < d.length) :
    DFA.st (d ++ e) s = d.st s := by
  apply st_eq_of_getElem?
  rw [List.getElem?_append_left h]
  exact getElem?_st d s h

theorem st_append_right {τ : Type} (d e : DFA τ) (s : Nat) :
    DFA.st (d ++ e) (d.length + s) = e.st s := by
  unfold DFA.st
  rw [List.getD_eq_getElem?_getD, List.getD_eq_getElem?_getD,
    List.getElem?_append_right (Nat.le_add_right _ _), Nat.add_sub_cancel_left]

theorem st_map {α β : Type} (f : DState α → DState β) (d : DFA α) (s : Nat) (h : s < d.length) :
    DFA.st (d.map f) s = f (d.st s) := by
  apply st_eq_of_getElem?
  rw [List.getElem?_map, getElem?_st d s h]
  rfl

theorem reachN_lt (d : DFA Nat) (hT : TargetsInRange d) (w : List Nat) :
    ∀ s, s < d.length → ∀ t, reachN d s w = some t → t < d.length := by
  induction w with
  | nil =>
    intro s hs t h
    cases h
    exact hs
  | cons x w ih =>
    intro s hs t h
    simp only [reachN] at h
    cases hl : lookupTrans (d.st s) x with
    | none => simp [hl] at h
    | some u =>
      simp only [hl] at h
      exact ih u (hT s hs u (lookupTrans_mem_succs _ _ _ hl)) t h

end Simplify

open Simplify

theorem addDfa_spec (d other : DFA Nat) :
    (addDfa d other).2 = d.length ∧ (addDfa d other).1.length = d.length + other.length ∧
    (∀ s, s < d.length → (addDfa d other).1.st s = d.st s) ∧
    (∀ s, s < other.length → (addDfa d other).1.st (d.length + s) = shiftState d.length (other.st s)) := by
  refine ⟨rfl, ?_, ?_, ?_⟩
  · simp [addDfa]
  · intro s hs
    exact st_append_left _ _ _ hs
  · intro s hs
    simp only [addDfa]
    rw [st_append_right, st_map _ _ _ hs]

theorem addDfa_st_cases (d other : DFA Nat) (s : Nat) (hs : s < (addDfa d other).1.length) :
    (s < d.length ∧ (addDfa d other).1.st s = d.st s) ∨
    ∃ k, k < other.length ∧ s = d.length + k ∧
      (addDfa d other).1.st s = shiftState d.length (other.st k) := by
  obtain ⟨_, hlen, hL, hR⟩ := addDfa_spec d other
  by_cases h : s < d.length
  · exact Or.inl ⟨h, hL s h⟩
  · have hle := Nat.le_of_not_lt h
    have e : s = d.length + (s - d.length) := (Nat.add_sub_cancel' hle).symm
    have hk : s - d.length < other.length := Nat.sub_lt_left_of_lt_add hle (hlen ▸ hs)
    exact Or.inr ⟨s - d.length, hk, e, by rw [← hR _ hk, ← e]⟩

namespace Simplify

theorem lookupTrans_shift (k : Nat) (s : DState Nat) (c : Nat) :
    lookupTrans (shiftState k s) c = (lookupTrans s c).map (· + k) :=
  lookupTrans_map (· + k) s (shiftState k s) rfl rfl rfl c

end Simplify

theorem addDfa_reach_right (d other : DFA Nat) (hT : TargetsInRange other) (s : Nat) (hs : s < other.length) (w : List Nat) :
    reachN (addDfa d other).1 (d.length + s) w = (reachN other s w).map (· + d.length) ∧
    (∀ t, reachN other s w = some t →
      ((addDfa d other).1.st (d.length + t)).accepting = (other.st t).accepting ∧
      ((addDfa d other).1.st (d.length + t)).eoi = (other.st t).eoi.map (· + d.length)) := by
  obtain ⟨_, _, _, hR⟩ := addDfa_spec d other
  constructor
  · induction w generalizing s with
    | nil => simp [reachN, Nat.add_comm]
    | cons x w ih =>
      simp only [reachN]
      rw [hR s hs, lookupTrans_shift]
      cases hl : lookupTrans (other.st s) x with
      | none => rfl
      | some u =>
        have hu : u < other.length := hT s hs u (lookupTrans_mem_succs _ _ _ hl)
        simp only [Option.map_some]
        rw [Nat.add_comm u d.length]
        exact ih u hu
  · intro t ht
    have hlt := reachN_lt other hT w s hs t ht
    rw [hR t hlt]
    exact ⟨rfl, rfl⟩

theorem addDfa_reach_left (d other : DFA Nat) (hT : TargetsInRange d) (s : Nat) (hs : s < d.length) (w : List Nat) :
    reachN (addDfa d other).1 s w = reachN d s w := by
  obtain ⟨_, _, hL, _⟩ := addDfa_spec d other
  induction w generalizing s with
  | nil => rfl
  | cons x w ih =>
    simp only [reachN]
    rw [hL s hs]
    cases hl : lookupTrans (d.st s) x with
    | none => rfl
    | some u =>
      have hu : u < d.length := hT s hs u (lookupTrans_mem_succs _ _ _ hl)
      exact ih u hu

namespace Simplify

def cnt (p : Nat → Bool) (n : Nat) : Nat := ((List.range n).filter p).length

theorem cnt_add_cnt_not (p : Nat → Bool) (n : Nat) : cnt p n + cnt (fun i => !p i) n = n := by
  unfold cnt
  rw [← List.countP_eq_length_filter, ← List.countP_eq_length_filter]
  have := List.length_eq_countP_add_countP p (l := List.range n)
  rw [List.length_range] at this
  simpa using this.symm

theorem filter_lt_filter_range (p : Nat → Bool) (n : Nat) :
    ∀ s, s ≤ n → ((List.range n).filter p).filter (fun i => decide (i < s)) = (List.range s).filter p := by
  induction n with
  | zero =>
    intro s hs
    cases Nat.le_zero.mp hs
    rfl
  | succ n ih =>
    intro s hs
    by_cases hsn : s ≤ n
    · rw [List.range_succ, List.filter_append, List.filter_append, ih s hsn]
      have : List.filter (fun i => decide (i < s)) (List.filter p [n]) = [] := by
        rw [List.filter_eq_nil_iff]
        intro a ha
        rw [List.mem_filter, List.mem_singleton] at ha
        simp only [decide_eq_true_eq]
        omega
      rw [this, List.append_nil]
    · cases Nat.le_antisymm hs (Nat.lt_of_not_le hsn)
      rw [List.filter_eq_self]
      intro a ha
      rw [List.mem_filter, List.mem_range] at ha
      simp only [decide_eq_true_eq]
      exact ha.1

theorem getElem?_filter_range (p : Nat → Bool) (n : Nat) :
    ∀ s, s < n → p s = true → ((List.range n).filter p)[cnt p s]? = some s := by
  induction n with
  | zero => exact fun s hs => absurd hs (Nat.not_lt_zero s)
  | succ n ih =>
    intro s hs hp
    rw [List.range_succ, List.filter_append]
    by_cases hsn : s < n
    · have h := ih s hsn hp
      obtain ⟨hlt, _⟩ := List.getElem?_eq_some_iff.mp h
      rw [List.getElem?_append_left hlt]
      exact h
    · have : s = n := Nat.le_antisymm (Nat.le_of_lt_succ hs) (Nat.le_of_not_lt hsn)
      subst this
      have hlen : ((List.range s).filter p).length ≤ cnt p s := Nat.le_refl _
      rw [List.getElem?_append_right hlen]
      rw [show cnt p s - ((List.range s).filter p).length = 0 from Nat.sub_self _]
      simp [List.filter, hp]

def isEmpty (d : DFA Nat) (i : Nat) : Bool := DFA.hasNoTransitions (d.st i) && !(d.st i).initial

theorem emptyStates_eq (d : DFA Nat) : emptyStates d = (List.range d.length).filter (isEmpty d) := rfl

theorem contains_emptyStates (d : DFA Nat) (s : Nat) :
    (emptyStates d).contains s = (decide (s < d.length) && isEmpty d s) := by
  rw [emptyStates_eq, Bool.eq_iff_iff]
  simp only [List.contains_iff_mem, List.mem_filter, List.mem_range, Bool.and_eq_true, decide_eq_true_eq]

/-- the list of kept states, as in `simplify` -/
def kept (d : DFA Nat) : List Nat := (List.range d.length).filter fun i => !(emptyStates d).contains i

theorem kept_eq (d : DFA Nat) : kept d = (List.range d.length).filter (fun i => !isEmpty d i) := by
  unfold kept
  apply List.filter_congr
  intro x hx
  rw [List.mem_range] at hx
  rw [contains_emptyStates]
  simp [hx]

theorem removedBelow_eq (d : DFA Nat) (s : Nat) (hs : s ≤ d.length) :
    removedBelow (emptyStates d) s = cnt (isEmpty d) s := by
  unfold removedBelow cnt
  rw [emptyStates_eq]
  have := filter_lt_filter_range (isEmpty d) d.length s hs
  rw [← this]

theorem newIdx_eq (d : DFA Nat) (s : Nat) (hs : s ≤ d.length) :
    newIdx d s = cnt (fun i => !isEmpty d i) s := by
  unfold newIdx
  rw [removedBelow_eq d s hs]
  exact (Nat.eq_sub_of_add_eq' (cnt_add_cnt_not (isEmpty d) s)).symm

theorem newIdx_zero (d : DFA Nat) : newIdx d 0 = 0 := by
  unfold newIdx
  exact Nat.zero_sub _

theorem kept_length (d : DFA Nat) : (kept d).length = d.length - (emptyStates d).length := by
  rw [kept_eq, emptyStates_eq]
  exact Nat.eq_sub_of_add_eq' (cnt_add_cnt_not (isEmpty d) d.length)

theorem kept_getElem? (d : DFA Nat) (s : Nat) (hs : s < d.length)
    (hk : (emptyStates d).contains s = false) : (kept d)[newIdx d s]? = some s := by
  rw [newIdx_eq d s (Nat.le_of_lt hs), kept_eq]
  apply getElem?_filter_range _ _ s hs
  rw [contains_emptyStates] at hk
  simp only [hs, decide_true, Bool.true_and] at hk
  simp [hk]

theorem mapM_ok {α β ε : Type} (f : α → Except ε β) :
    ∀ (l : List α) (r : List β), l.mapM f = .ok r →
      r.length = l.length ∧ ∀ (i : Nat) (x : α), l[i]? = some x → ∃ y, r[i]? = some y ∧ f x = .ok y
  | [], r, h => by
    rw [List.mapM_nil] at h
    cases h
    exact ⟨rfl, fun i x hx => by rw [List.getElem?_nil] at hx; cases hx⟩
  | a :: l, r, h => by
    rw [List.mapM_cons] at h
    obtain ⟨y, hy, h⟩ := bind_eq_ok.mp h
    obtain ⟨r', hr', h⟩ := bind_eq_ok.mp h
    cases h
    obtain ⟨h1, h2⟩ := mapM_ok f l r' hr'
    refine ⟨congrArg (· + 1) h1, fun i x hx => ?_⟩
    cases i with
    | zero =>
      rw [List.getElem?_cons_zero] at hx
      cases hx
      exact ⟨y, rfl, hy⟩
    | succ i => exact h2 i x hx

theorem simplifyState_ok (d : DFA Nat) (empties : List Nat) (s : DState Nat) (y : DState Trans)
    (h : simplifyState d empties s = .ok y) :
    y.initial = s.initial ∧
    y.chars = (s.chars.map fun e => (e.1, mapTransition d empties e.2)) ∧
    y.ranges = RangeMap.mapVals (mapTransition d empties) s.ranges ∧
    y.any = s.any.map (mapTransition d empties) ∧
    y.eoi = s.eoi.map (mapTransition d empties) ∧
    y.accepting = s.accepting ∧
    y.backtrack = s.backtrack := by
  unfold simplifyState at h
  obtain ⟨preds, _, h⟩ := bind_eq_ok.mp h
  cases h
  exact ⟨rfl, rfl, rfl, rfl, rfl, rfl, rfl⟩

theorem simplify_ok (d : DFA Nat) (entries : List (String × Nat)) (d' : DFA Trans) (entries' : List (String × Nat))
    (h : simplify d entries = .ok (d', entries')) :
    (kept d).mapM (fun i => simplifyState d (emptyStates d) (d.st i)) = .ok d' ∧
    entries' = entries.map (fun e => (e.1, newIdx d e.2)) := by
  unfold simplify at h
  obtain ⟨states, hm, h⟩ := bind_eq_ok.mp h
  cases h
  exact ⟨hm, rfl⟩

theorem toCfg_mapTransition (d : DFA Nat) (t : Nat) :
    Target.toCfg (mapTransition d (emptyStates d) t) = cfgOf d t := by
  unfold mapTransition cfgOf newIdx
  by_cases h : (emptyStates d).contains t = true
  · simp only [h, if_true]
    rfl
  · simp only [h]
    rfl

theorem simplify_state (d : DFA Nat) (entries : List (String × Nat)) (d' : DFA Trans) (entries' : List (String × Nat))
    (h : simplify d entries = .ok (d', entries'))
    (s : Nat) (hs : s < d.length) (hk : (emptyStates d).contains s = false) :
    newIdx d s < d'.length ∧
    simplifyState d (emptyStates d) (d.st s) = .ok (d'.st (newIdx d s)) := by
  obtain ⟨hm, _⟩ := simplify_ok d entries d' entries' h
  obtain ⟨hlen, hget⟩ := mapM_ok _ _ _ hm
  obtain ⟨y, hy1, hy2⟩ := hget (newIdx d s) s (kept_getElem? d s hs hk)
  obtain ⟨hlt, _⟩ := List.getElem?_eq_some_iff.mp hy1
  refine ⟨hlt, ?_⟩
  rw [st_eq_of_getElem? d' _ y hy1]
  exact hy2

end Simplify

theorem simplify_spec (d : DFA Nat) (entries : List (String × Nat)) (d' : DFA Trans) (entries' : List (String × Nat))
    (h : simplify d entries = .ok (d', entries')) (hT : TargetsInRange d) :
    entries' = entries.map (fun e => (e.1, newIdx d e.2)) ∧
    d'.length = d.length - (emptyStates d).length ∧
    (∀ s, s < d.length → (emptyStates d).contains s = false →
      newIdx d s < d'.length ∧
      (d'.st (newIdx d s)).accepting = (d.st s).accepting ∧
      (d'.st (newIdx d s)).initial = (d.st s).initial ∧
      (d'.st (newIdx d s)).backtrack = (d.st s).backtrack ∧
      (∀ c, (lookupTrans (d'.st (newIdx d s)) c).map Target.toCfg = (lookupTrans (d.st s) c).map (cfgOf d)) ∧
      (d'.st (newIdx d s)).eoi.map Target.toCfg = (d.st s).eoi.map (cfgOf d)) := by
  -- `hT` is not used: the tables are related entry by entry, and nothing is claimed of where the targets lie
  have _ := hT
  obtain ⟨hm, he⟩ := simplify_ok d entries d' entries' h
  refine ⟨he, ?_, ?_⟩
  · rw [(mapM_ok _ _ _ hm).1, kept_length]
  · intro s hs hk
    obtain ⟨hlt, hst⟩ := simplify_state d entries d' entries' h s hs hk
    obtain ⟨h1, h2, h3, h4, h5, h6, h7⟩ := simplifyState_ok _ _ _ _ hst
    have hcfg : Target.toCfg ∘ mapTransition d (emptyStates d) = cfgOf d := funext (toCfg_mapTransition d)
    refine ⟨hlt, h6, h1, h7, fun c => ?_, ?_⟩
    · rw [lookupTrans_map (mapTransition d (emptyStates d)) (d.st s) _ h2 h3 h4 c, Option.map_map, hcfg]
    · rw [h5, Option.map_map, hcfg]

namespace Simplify

theorem reach_st_cons (d' : DFA Trans) (s x : Nat) (w : List Nat) :
    reach d' (.st s) (x :: w) = ((lookupTrans (d'.st s) x).map Target.toCfg).bind (reach d' · w) := by
  simp only [reach]
  cases lookupTrans (d'.st s) x <;> rfl

theorem reachN_cons (d : DFA Nat) (s x : Nat) (w : List Nat) :
    reachN d s (x :: w) = (lookupTrans (d.st s) x).bind (reachN d · w) := by
  simp only [reachN]
  cases lookupTrans (d.st s) x <;> rfl

theorem cfgOf_kept {d : DFA Nat} {s : Nat} (hk : (emptyStates d).contains s = false) :
    cfgOf d s = .st (newIdx d s) := by
  simp only [cfgOf, hk, Bool.false_eq_true, if_false]

theorem cfgOf_removed {d : DFA Nat} {s : Nat} (hk : (emptyStates d).contains s = true) :
    cfgOf d s = .term (d.st s).accepting := by
  simp only [cfgOf, hk, if_true]

theorem removed_facts {d : DFA Nat} {s : Nat} (h : (emptyStates d).contains s = true) :
    (∀ c, lookupTrans (d.st s) c = none) ∧ (d.st s).eoi = none := by
  rw [contains_emptyStates] at h
  simp only [Bool.and_eq_true, isEmpty] at h
  exact ⟨lookupTrans_none_of_hasNoTransitions _ h.2.1, ((DFA.hasNoTransitions_iff _).mp h.2.1).2.2.2⟩

section
variable (d : DFA Nat) (entries : List (String × Nat)) (d' : DFA Trans) (entries' : List (String × Nat))
  (h : simplify d entries = .ok (d', entries')) (hT : TargetsInRange d)
include h hT

theorem reach_cfg (w : List Nat) :
    ∀ s, s < d.length → reach d' (cfgOf d s) w = (reachN d s w).map (cfgOf d) := by
  obtain ⟨_, _, hS⟩ := simplify_spec d entries d' entries' h hT
  induction w with
  | nil => intro s _; rfl
  | cons x w ih =>
    intro s hs
    rw [reachN_cons]
    cases hk : (emptyStates d).contains s with
    | true =>
      rw [(removed_facts hk).1 x, cfgOf_removed hk]
      rfl
    | false =>
      rw [cfgOf_kept hk, reach_st_cons, (hS s hs hk).2.2.2.2.1 x]
      cases hl : lookupTrans (d.st s) x with
      | none => rfl
      | some t => exact ih t (hT s hs t (lookupTrans_mem_succs _ _ _ hl))

theorem acc_cfg (t : Nat) (ht : t < d.length) : Auto.acc d' (cfgOf d t) = (d.st t).accepting := by
  cases hk : (emptyStates d).contains t with
  | true =>
    rw [cfgOf_removed hk]
    rfl
  | false =>
    rw [cfgOf_kept hk]
    exact ((simplify_spec d entries d' entries' h hT).2.2 t ht hk).2.1

theorem eoi_cfg (t : Nat) (ht : t < d.length) :
    Auto.eoi d' (cfgOf d t) = (d.st t).eoi.map (cfgOf d) := by
  cases hk : (emptyStates d).contains t with
  | true =>
    rw [cfgOf_removed hk, (removed_facts hk).2]
    rfl
  | false =>
    rw [cfgOf_kept hk]
    exact ((simplify_spec d entries d' entries' h hT).2.2 t ht hk).2.2.2.2.2

end
end Simplify

theorem simplify_reach (d : DFA Nat) (entries : List (String × Nat)) (d' : DFA Trans) (entries' : List (String × Nat))
    (h : simplify d entries = .ok (d', entries')) (hT : TargetsInRange d)
    (s : Nat) (hs : s < d.length) (hk : (emptyStates d).contains s = false) (w : List Nat) :
    (reach d' (.st (newIdx d s)) w).map (Auto.acc d') = (reachN d s w).map (fun t => (d.st t).accepting) := by
  rw [← Simplify.cfgOf_kept hk, Simplify.reach_cfg d entries d' entries' h hT w s hs]
  cases hr : reachN d s w with
  | none => rfl
  | some t =>
    exact congrArg some (Simplify.acc_cfg d entries d' entries' h hT t (Simplify.reachN_lt d hT w s hs t hr))

end Lexgen
