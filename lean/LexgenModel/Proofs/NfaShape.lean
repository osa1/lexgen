import LexgenModel.Spec.WellFormed
import LexgenModel.Proofs.AddRe
import LexgenModel.Proofs.RangeMapValues
/-!
# Shape of the Thompson NFA of a rule set

No `regexPiecesOK` hypothesis is available for `buildNfa_shape` (bracket ranges may be inverted), so
`Thompson.Step` and `Thompson.Frame`, which speak of edges and need well-formed range maps, are of no
use; instead an invariant on the *listed* transition targets (`STgt`) is proved by induction on the
regex, from the same equations for `addRe` and the same descriptions of the `add…Transition` functions.
-/

namespace Lexgen
namespace NfaShape
open Thompson (st_newState length_newState st_modify_self st_modify_ne ne_of_eq_or_le)
open Subset (mem_setInsert mem_setUnion)

variable {n n' n1 n2 m m' : NFA} {cur cont : Nat} {E : Prop}

/-- `n'` extends `n`; among the states of `n` only `cur` changed; every newly listed target is `cont`
or a fresh state; every newly listed end-of-input target is `cont`, and only when `E` holds -/
structure Inv (n n' : NFA) (cur cont : Nat) (E : Prop) : Prop where
  len : n.length ≤ n'.length
  old : ∀ a, a < n.length → a ≠ cur → n'.st a = n.st a
  tgt : ∀ a b, STgt (n'.st a) b → STgt (n.st a) b ∨ b = cont ∨ (n.length ≤ b ∧ b < n'.length)
  eoi : ∀ a b, b ∈ (n'.st a).eoi → b ∈ (n.st a).eoi ∨ (E ∧ b = cont)

theorem Inv.refl (n : NFA) (cur cont : Nat) (E : Prop) : Inv n n cur cont E :=
  ⟨Nat.le_refl _, fun _ _ _ => rfl, fun _ _ h => Or.inl h, fun _ _ h => Or.inl h⟩

theorem Inv.newState (n : NFA) (cur cont : Nat) (E : Prop) : Inv n n.newState.1 cur cont E :=
  ⟨length_newState n ▸ Nat.le_succ _, fun a _ _ => st_newState n a, fun a _ h => Or.inl (st_newState n a ▸ h),
    fun a _ h => Or.inl (st_newState n a ▸ h)⟩

theorem tgt_of_eq_or_mem {b k N m m' L : Nat} (hk : k = cont ∨ (N ≤ k ∧ k < L)) (hm : N ≤ m) (hm' : m' ≤ L)
    (h : b = k ∨ (m ≤ b ∧ b < m')) : b = cont ∨ (N ≤ b ∧ b < L) :=
  h.elim (fun e => e ▸ hk) (fun e => Or.inr ⟨Nat.le_trans hm e.1, Nat.lt_of_lt_of_le e.2 hm'⟩)

theorem Inv.trans {c1 k1 c2 k2 : Nat} {E1 E2 : Prop}
    (f1 : Inv n n1 c1 k1 E1) (f2 : Inv n1 n2 c2 k2 E2)
    (hc1 : c1 = cur ∨ n.length ≤ c1) (hc2 : c2 = cur ∨ n.length ≤ c2)
    (hk1 : k1 = cont ∨ (n.length ≤ k1 ∧ k1 < n2.length)) (hk2 : k2 = cont ∨ (n.length ≤ k2 ∧ k2 < n2.length))
    (hE1 : E1 → E ∧ k1 = cont) (hE2 : E2 → E ∧ k2 = cont) :
    Inv n n2 cur cont E := by
  refine ⟨Nat.le_trans f1.len f2.len, ?_, ?_, ?_⟩
  · intro a ha hne
    rw [f2.old a (Nat.lt_of_lt_of_le ha f1.len) (ne_of_eq_or_le ha hne hc2), f1.old a ha (ne_of_eq_or_le ha hne hc1)]
  · intro a b hab
    rcases f2.tgt a b hab with h | h
    · exact (f1.tgt a b h).imp_right (tgt_of_eq_or_mem hk1 (Nat.le_refl _) f2.len)
    · exact Or.inr (tgt_of_eq_or_mem hk2 f1.len (Nat.le_refl _) h)
  · intro a b hab
    rcases f2.eoi a b hab with h | ⟨h, hb⟩
    · exact (f1.eoi a b h).imp_right fun ⟨h', hb⟩ => ⟨(hE1 h').1, hb.trans (hE1 h').2⟩
    · exact Or.inr ⟨(hE2 h).1, hb.trans (hE2 h).2⟩

theorem Inv.seq
    (f1 : Inv n n1 cur cont E) (f2 : Inv n1 n2 cur cont E) : Inv n n2 cur cont E :=
  Inv.trans f1 f2 (Or.inl rfl) (Or.inl rfl) (Or.inl rfl) (Or.inl rfl) (fun h => ⟨h, rfl⟩) (fun h => ⟨h, rfl⟩)

theorem Inv.weaken {n n' : NFA} {cur cont : Nat} {E E' : Prop} (f : Inv n n' cur cont E) (h : E → E') :
    Inv n n' cur cont E' :=
  ⟨f.len, f.old, f.tgt, fun a b hab => (f.eoi a b hab).imp id (fun ⟨h1, h2⟩ => ⟨h h1, h2⟩)⟩

theorem Inv.add {c k : Nat} (f : Inv n m cur cont E) (g : Inv m m' c k False)
    (hc : c = cur ∨ n.length ≤ c) (hk : k = cont ∨ (n.length ≤ k ∧ k < m'.length)) : Inv n m' cur cont E :=
  Inv.trans f g (Or.inl rfl) hc (Or.inl rfl) hk (fun h => ⟨h, rfl⟩) False.elim

theorem Inv.addE {c : Nat} (f : Inv n m cur cont E) (g : Inv m m' c cont E)
    (hc : c = cur ∨ n.length ≤ c) : Inv n m' cur cont E :=
  Inv.trans f g (Or.inl rfl) hc (Or.inl rfl) (Or.inl rfl) (fun h => ⟨h, rfl⟩) (fun h => ⟨h, rfl⟩)

theorem Inv.newState2 (n : NFA) (cur cont : Nat) (E : Prop) : Inv n n.newState.1.newState.1 cur cont E :=
  (Inv.newState n cur cont E).seq (Inv.newState _ cur cont E)

theorem bounds1 {N M : Nat} (hc : cur < N) (hM : N + 1 ≤ M) : cur < M ∧ N < M := by
  omega

theorem bounds2 {N M : Nat} (hc : cur < N) (hM : N + 2 ≤ M) : cur < M ∧ N < M ∧ N + 1 < M := by
  omega

theorem inv_modify (n : NFA) (s t : Nat) (f : NState → NState) (E : Prop) (hs : s < n.length)
    (htgt : ∀ b, STgt (f (n.st s)) b → STgt (n.st s) b ∨ b = t)
    (heoi : ∀ b, b ∈ (f (n.st s)).eoi → b ∈ (n.st s).eoi ∨ (E ∧ b = t)) :
    Inv n (List.modify n s f) s t E ∧ (List.modify n s f).length = n.length := by
  refine ⟨⟨Nat.le_of_eq (List.length_modify _ _ _).symm, fun a _ ha => st_modify_ne n s a f ha, ?_, ?_⟩,
    List.length_modify _ _ _⟩
  · intro a b hab
    by_cases ha : a = s
    · subst ha
      rw [st_modify_self n a f hs] at hab
      exact (htgt b hab).imp_right Or.inl
    · rw [st_modify_ne n s a f ha] at hab; exact Or.inl hab
  · intro a b hab
    by_cases ha : a = s
    · subst ha
      rw [st_modify_self n a f hs] at hab
      exact heoi b hab
    · rw [st_modify_ne n s a f ha] at hab; exact Or.inl hab

theorem insert_cases {b t : Nat} {l : List Nat} (h : b ∈ setInsert t l) : b ∈ l ∨ b = t :=
  (mem_setInsert.mp h).symm

theorem inv_addEps {s t : Nat} (E : Prop) (h : n.addEmptyTransition s t = .ok n') (hs : s < n.length) :
    Inv n n' s t E ∧ n'.length = n.length := by
  obtain ⟨_, rfl⟩ := Thompson.addEps_ok_iff.mp h
  refine inv_modify n s t _ E hs ?_ (fun b hb => Or.inl hb)
  rintro b (hb | hb)
  · exact (insert_cases hb).imp_left Or.inl
  · exact Or.inl (Or.inr hb)

theorem inv_addAny {s t : Nat} (E : Prop) (h : n.addAnyTransition s t = .ok n') (hs : s < n.length) :
    Inv n n' s t E ∧ n'.length = n.length := by
  obtain ⟨_, rfl⟩ := Thompson.addAny_ok_iff.mp h
  refine inv_modify n s t _ E hs ?_ (fun b hb => Or.inl hb)
  rintro b (hb | hb | hb)
  · exact Or.inl (Or.inl hb)
  · exact (insert_cases hb).imp_left fun h => Or.inr (Or.inl h)
  · exact Or.inl (Or.inr (Or.inr hb))

theorem inv_addEoi {s t : Nat} (E : Prop) (hE : E) (h : n.addEoiTransition s t = .ok n')
    (hs : s < n.length) : Inv n n' s t E ∧ n'.length = n.length := by
  obtain ⟨_, rfl⟩ := Thompson.addEoi_ok_iff.mp h
  refine inv_modify n s t _ E hs ?_ (fun b hb => (insert_cases hb).imp_right fun h => ⟨hE, h⟩)
  rintro b (hb | hb | hb | hb)
  · exact Or.inl (Or.inl hb)
  · exact Or.inl (Or.inr (Or.inl hb))
  · exact (insert_cases hb).imp_left fun h => Or.inr (Or.inr (Or.inl h))
  · exact Or.inl (Or.inr (Or.inr (Or.inr hb)))

theorem stgt_chars (st : NState) (chars' : List (Nat × List Nat)) (t : Nat)
    (hch : ∀ e ∈ chars', ∀ b ∈ e.2, (∃ e0 ∈ st.chars, b ∈ e0.2) ∨ b = t) (b : Nat)
    (h : STgt { st with chars := chars' } b) : STgt st b ∨ b = t := by
  rcases h with hb | hb | hb | ⟨e, he, hb⟩ | hb
  · exact Or.inl (Or.inl hb)
  · exact Or.inl (Or.inr (Or.inl hb))
  · exact Or.inl (Or.inr (Or.inr (Or.inl hb)))
  · exact (hch e he b hb).imp_left fun h => Or.inr (Or.inr (Or.inr (Or.inl h)))
  · exact Or.inl (Or.inr (Or.inr (Or.inr (Or.inr hb))))

theorem stgt_ranges (st : NState) (ranges' : RangeMap (List Nat)) (t : Nat)
    (hr : AllV (fun l => ∀ b ∈ l, (∃ r0 ∈ st.ranges, b ∈ r0.2.2) ∨ b = t) ranges') (b : Nat)
    (h : STgt { st with ranges := ranges' } b) : STgt st b ∨ b = t := by
  rcases h with hb | hb | hb | hb | ⟨r, hr', hb⟩
  · exact Or.inl (Or.inl hb)
  · exact Or.inl (Or.inr (Or.inl hb))
  · exact Or.inl (Or.inr (Or.inr (Or.inl hb)))
  · exact Or.inl (Or.inr (Or.inr (Or.inr (Or.inl hb))))
  · exact (hr r hr' b hb).imp_left fun h => Or.inr (Or.inr (Or.inr (Or.inr h)))

theorem inv_addChar {s c t : Nat} (E : Prop) (h : n.addCharTransition s c t = .ok n')
    (hs : s < n.length) : Inv n n' s t E ∧ n'.length = n.length := by
  rcases Thompson.addChar_ok_cases h with ⟨_, _, rfl⟩ | ⟨_, rfl⟩
  · refine inv_modify n s t _ E hs (stgt_chars _ _ t ?_) (fun b hb => Or.inl hb)
    intro e he b hb
    obtain ⟨e0, he0, rfl⟩ := List.mem_map.mp he
    split at hb
    · exact (insert_cases hb).imp_left fun h => ⟨e0, he0, h⟩
    · exact Or.inl ⟨e0, he0, hb⟩
  · refine inv_modify n s t _ E hs (stgt_chars _ _ t ?_) (fun b hb => Or.inl hb)
    intro e he b hb
    rcases List.mem_append.mp he with he | he
    · exact Or.inl ⟨e, he, hb⟩
    · rw [List.mem_singleton.mp he] at hb
      exact Or.inr (List.mem_singleton.mp hb)

theorem allV_old (st : NState) (t : Nat) :
    AllV (fun l => ∀ b ∈ l, (∃ r0 ∈ st.ranges, b ∈ r0.2.2) ∨ b = t) st.ranges :=
  fun r hr _ hb => Or.inl ⟨r, hr, hb⟩

theorem setUnion_ok (Q : Nat → Prop) (x y : List Nat) (hx : ∀ b ∈ x, Q b) (hy : ∀ b ∈ y, Q b) :
    ∀ b ∈ setUnion x y, Q b :=
  fun b hb => (mem_setUnion.mp hb).elim (hx b) (hy b)

theorem inv_addRange (n : NFA) (s rs re t : Nat) (E : Prop) (hs : s < n.length) :
    Inv n (n.addRangeTransition s rs re t) s t E ∧ (n.addRangeTransition s rs re t).length = n.length := by
  have ht : ∀ b ∈ [t], (∃ r0 ∈ (n.st s).ranges, b ∈ r0.2.2) ∨ b = t := fun b hb => Or.inr (List.mem_singleton.mp hb)
  refine inv_modify n s t _ E hs (stgt_ranges _ _ t ?_) (fun b hb => Or.inl hb)
  exact insertAux_allV setUnion (fun l => ∀ b ∈ l, (∃ r0 ∈ (n.st s).ranges, b ∈ r0.2.2) ∨ b = t) [t] ht
    (fun x hx => setUnion_ok _ _ _ hx ht) _ none rs re (allV_old _ _)

theorem inv_addRanges (n : NFA) (s : Nat) (m : RangeMap Unit) (t : Nat) (E : Prop) (hs : s < n.length) :
    Inv n (n.addRangeTransitions s m t) s t E ∧ (n.addRangeTransitions s m t).length = n.length := by
  refine inv_modify n s t _ E hs (stgt_ranges _ _ t ?_) (fun b hb => Or.inl hb)
  exact insertRanges_allV setUnion _ (fun x y hx hy => setUnion_ok _ _ _ hx hy) _ _ (allV_old _ _)
    (allV_mapVals _ m fun _ b hb => Or.inr (List.mem_singleton.mp hb))

theorem tailEoi_of_eoiFree (re : Regex) (h : eoiFree re) : tailEoi re := by
  induction re with
  | star | plus => exact h
  | opt r ih => exact ih h
  | cat a b _ ihb => exact ⟨h.1, ihb h.2⟩
  | alt a b iha ihb => exact ⟨iha h.1, ihb h.2⟩
  | _ => trivial

/-- what is required of `re` for `addRe re cur cont` to add end-of-input transitions only to `cont`,
and none at all unless `E` -/
def OKE (re : Regex) (E : Prop) : Prop := eoiFree re ∨ (E ∧ tailEoi re)

theorem OKE.iter {r : Regex} : OKE (.star r) E → OKE r False := by
  rintro (h | ⟨_, h⟩) <;> exact Or.inl h

theorem OKE.iter' {r : Regex} : OKE (.plus r) E → OKE r False := by
  rintro (h | ⟨_, h⟩) <;> exact Or.inl h

theorem OKE.opt {r : Regex} : OKE (.opt r) E → OKE r E := by
  rintro (h | ⟨hE, h⟩)
  · exact Or.inl h
  · exact Or.inr ⟨hE, h⟩

theorem OKE.cat {a b : Regex} : OKE (.cat a b) E → OKE a False ∧ OKE b E := by
  rintro (h | ⟨hE, h⟩)
  · exact ⟨Or.inl h.1, Or.inl h.2⟩
  · exact ⟨Or.inl h.1, Or.inr ⟨hE, h.2⟩⟩

theorem OKE.alt {a b : Regex} : OKE (.alt a b) E → OKE a E ∧ OKE b E := by
  rintro (h | ⟨hE, h⟩)
  · exact ⟨Or.inl h.1, Or.inl h.2⟩
  · exact ⟨Or.inr ⟨hE, h.1⟩, Or.inr ⟨hE, h.2⟩⟩

theorem OKE.eoi : OKE .eoi E → E := by
  rintro (h | ⟨hE, _⟩)
  · exact h.elim
  · exact hE

theorem Inv.addEdge {s t : Nat} (f : Inv n m cur cont E)
    (h : m.addEmptyTransition s t = .ok m') (hs : s < m.length) (hc : s = cur ∨ n.length ≤ s)
    (hk : t = cont ∨ (n.length ≤ t ∧ t < m.length)) : Inv n m' cur cont E ∧ m'.length = m.length := by
  have st := inv_addEps False h hs
  exact ⟨f.add st.1 hc (st.2.symm ▸ hk), st.2⟩

theorem Inv.addEdge2 {m1 m2 : NFA} {s t1 t2 : Nat} (f : Inv n m cur cont E)
    (h1 : m.addEmptyTransition s t1 = .ok m1) (h2 : m1.addEmptyTransition s t2 = .ok m2) (hs : s < m.length)
    (hc : s = cur ∨ n.length ≤ s) (hk1 : t1 = cont ∨ (n.length ≤ t1 ∧ t1 < m.length))
    (hk2 : t2 = cont ∨ (n.length ≤ t2 ∧ t2 < m.length)) : Inv n m2 cur cont E ∧ m2.length = m.length := by
  obtain ⟨f1, l1⟩ := f.addEdge h1 hs hc hk1
  obtain ⟨f2, l2⟩ := f1.addEdge h2 (l1 ▸ hs) hc (l1.symm ▸ hk2)
  exact ⟨f2, l2.trans l1⟩

theorem addStr_inv (E : Prop) (cs : List Nat) : ∀ (cur cont : Nat) (n n' : NFA), cur < n.length →
    NFA.addStr cs cur cont n = .ok n' → Inv n n' cur cont E := by
  induction cs with
  | nil =>
    intro cur cont n n' _ h
    cases h
    exact Inv.refl _ _ _ _
  | cons c rest ih =>
    intro cur cont n n' hcur h
    cases rest with
    | nil => exact (inv_addChar E h hcur).1
    | cons c' cs =>
      obtain ⟨n1, h1, h⟩ := Thompson.addStr_cons_cons_ok h
      have hl := length_newState n
      obtain ⟨bc, bN⟩ := bounds1 hcur (Nat.le_of_eq hl.symm)
      have s1 := inv_addChar False h1 bc
      have g := ih n.length cont n1 n' (s1.2 ▸ bN) h
      exact ((Inv.newState n cur cont E).add s1.1 (Or.inl rfl) (Or.inr ⟨Nat.le_refl _, s1.2 ▸ bN⟩)).addE g
        (Or.inr (Nat.le_refl _))

theorem addSet_inv (E : Prop) (items : List CharOrRange) : ∀ (seen : List Nat) (cur cont : Nat) (n n' : NFA),
    cur < n.length → NFA.addSet items seen cur cont n = .ok n' → Inv n n' cur cont E := by
  induction items with
  | nil =>
    intro seen cur cont n n' _ h
    cases h
    exact Inv.refl _ _ _ _
  | cons it items ih =>
    intro seen cur cont n n' hcur h
    cases it with
    | chr c =>
      simp only [NFA.addSet] at h
      by_cases hs : seen.contains c = true
      · rw [if_pos hs] at h
        exact ih seen cur cont n n' hcur h
      · rw [if_neg hs] at h
        obtain ⟨n1, h1, h⟩ := bind_eq_ok.mp h
        have s1 := inv_addChar E h1 hcur
        exact s1.1.seq (ih _ cur cont n1 n' (s1.2 ▸ hcur) h)
    | rng s e =>
      simp only [NFA.addSet] at h
      have s1 := inv_addRange n cur s e cont E hcur
      exact s1.1.seq (ih _ cur cont _ n' (s1.2 ▸ hcur) h)

theorem addRe_inv (re : Regex) : ∀ (E : Prop) (cur cont : Nat) (n n' : NFA), cur < n.length → OKE re E →
    NFA.addRe re cur cont n = .ok n' → Inv n n' cur cont E := by
  induction re with
  | builtin | diff =>
    intro E cur cont n n' hcur _ h
    obtain ⟨m, _, rfl⟩ := Thompson.addRe_class_ok h trivial
    exact (inv_addRanges n cur m cont E hcur).1
  | var name =>
    intro E cur cont n n' _ _ h
    cases h
  | chr c => exact fun E cur cont n n' hcur _ h => (inv_addChar E h hcur).1
  | str cs => exact fun E cur cont n n' hcur _ h => addStr_inv E cs cur cont n n' hcur h
  | set items => exact fun E cur cont n n' hcur _ h => addSet_inv E items [] cur cont n n' hcur h
  | star r ih =>
    intro E cur cont n n' hcur hok h
    obtain ⟨n1, n2, n3, n4, h1, h2, h3, h4, h5⟩ := Thompson.addRe_star_ok h
    have hL := Thompson.length_newState2 n
    have g := ih False n.length (n.length + 1) _ n1 (bounds2 hcur (Nat.le_of_eq hL.symm)).2.1 hok.iter h1
    obtain ⟨bc1, bN1, bN1'⟩ := bounds2 hcur (hL ▸ g.len)
    have f1 := (Inv.newState2 n cur cont E).add g (Or.inr (Nat.le_refl _)) (Or.inr ⟨Nat.le_succ _, bN1'⟩)
    obtain ⟨f3, l3⟩ := f1.addEdge2 h2 h3 bc1 (Or.inl rfl) (Or.inl rfl) (Or.inr ⟨Nat.le_refl _, bN1⟩)
    exact (f3.addEdge2 h4 h5 (l3 ▸ bN1') (Or.inr (Nat.le_succ _)) (Or.inl rfl)
      (Or.inr ⟨Nat.le_refl _, l3 ▸ bN1⟩)).1
  | plus r ih =>
    intro E cur cont n n' hcur hok h
    obtain ⟨n1, n2, n3, h1, h2, h3, h4⟩ := Thompson.addRe_plus_ok h
    have hL := Thompson.length_newState2 n
    have g := ih False n.length (n.length + 1) _ n1 (bounds2 hcur (Nat.le_of_eq hL.symm)).2.1 hok.iter' h1
    obtain ⟨bc1, bN1, bN1'⟩ := bounds2 hcur (hL ▸ g.len)
    have f1 := (Inv.newState2 n cur cont E).add g (Or.inr (Nat.le_refl _)) (Or.inr ⟨Nat.le_succ _, bN1'⟩)
    obtain ⟨f2, l2⟩ := f1.addEdge h2 bc1 (Or.inl rfl) (Or.inr ⟨Nat.le_refl _, bN1⟩)
    exact (f2.addEdge2 h3 h4 (l2 ▸ bN1') (Or.inr (Nat.le_succ _)) (Or.inl rfl)
      (Or.inr ⟨Nat.le_refl _, l2 ▸ bN1⟩)).1
  | opt r ih =>
    intro E cur cont n n' hcur hok h
    obtain ⟨n1, n2, h1, h2, h3⟩ := Thompson.addRe_opt_ok h
    have hl := length_newState n
    have g := ih E n.length cont _ n1 (bounds1 hcur (Nat.le_of_eq hl.symm)).2 hok.opt h1
    obtain ⟨bc1, bN1⟩ := bounds1 hcur (hl ▸ g.len)
    have f1 := (Inv.newState n cur cont E).addE g (Or.inr (Nat.le_refl _))
    exact (f1.addEdge2 h2 h3 bc1 (Or.inl rfl) (Or.inl rfl) (Or.inr ⟨Nat.le_refl _, bN1⟩)).1
  | cat a b iha ihb =>
    intro E cur cont n n' hcur hok h
    obtain ⟨n1, h1, h2⟩ := Thompson.addRe_cat_ok h
    have hl := length_newState n
    have ga := iha False cur n.length _ n1 (bounds1 hcur (Nat.le_of_eq hl.symm)).1 hok.cat.1 h1
    obtain ⟨_, bN1⟩ := bounds1 hcur (hl ▸ ga.len)
    have gb := ihb E n.length cont n1 n' bN1 hok.cat.2 h2
    have f1 := (Inv.newState n cur cont E).add ga (Or.inl rfl) (Or.inr ⟨Nat.le_refl _, bN1⟩)
    exact f1.addE gb (Or.inr (Nat.le_refl _))
  | alt a b iha ihb =>
    intro E cur cont n n' hcur hok h
    obtain ⟨n1, n2, n3, h1, h2, h3, h4⟩ := Thompson.addRe_alt_ok h
    have hL := Thompson.length_newState2 n
    have ga := iha E n.length cont _ n1 (bounds2 hcur (Nat.le_of_eq hL.symm)).2.1 hok.alt.1 h1
    have gb := ihb E (n.length + 1) cont n1 n2 (bounds2 hcur (hL ▸ ga.len)).2.2 hok.alt.2 h2
    obtain ⟨bc2, bN2, bN2'⟩ := bounds2 hcur (hL ▸ Nat.le_trans ga.len gb.len)
    have f2 := ((Inv.newState2 n cur cont E).addE ga (Or.inr (Nat.le_refl _))).addE gb (Or.inr (Nat.le_succ _))
    exact (f2.addEdge2 h3 h4 bc2 (Or.inl rfl) (Or.inr ⟨Nat.le_refl _, bN2⟩) (Or.inr ⟨Nat.le_succ _, bN2'⟩)).1
  | any => exact fun E cur cont n n' hcur _ h => (inv_addAny E h hcur).1
  | eoi => exact fun E cur cont n n' hcur hok h => (inv_addEoi E hok.eoi h hcur).1

/-- the invariant of the `add_regex` fold: listed targets are states other than 0; end-of-input
targets have no outgoing transition -/
structure Good (n : NFA) : Prop where
  pos : 0 < n.length
  tgt : ∀ a b, STgt (n.st a) b → b ≠ 0 ∧ b < n.length
  eoi : ∀ a t, t ∈ (n.st a).eoi → NFA.virgin n t

theorem good_new : Good NFA.new := by
  refine ⟨Nat.zero_lt_one, ?_, ?_⟩
  · intro a b h; rw [Thompson.st_new] at h; exact absurd h (stgt_empty b)
  · intro a t h; rw [Thompson.st_new] at h; cases h

theorem good_step (hg : Good n) (re : Regex) (hre : tailEoi re) (ctx : Option Nat) (value : Nat)
    (h : n.addRegex re ctx value = .ok n') : Good n' := by
  obtain ⟨n2, n4, h2, h4, h5⟩ := Thompson.addRegex_unfold h
  have h0 := hg.pos
  obtain ⟨hl4, hst⟩ := Thompson.addRegex_prep h0 h2 h4
  have hN4 : n.length < n4.length := hl4 ▸ Nat.lt_add_of_pos_right (Nat.succ_pos 1)
  have hN14 : n.length + 1 < n4.length := hl4 ▸ Nat.lt_succ_self _
  have g := addRe_inv re True (n.length + 1) n.length n4 n' hN14 (Or.inr ⟨trivial, hre⟩) h5
  have hN := Nat.lt_of_lt_of_le hN4 g.len
  have hN1 := Nat.lt_of_lt_of_le hN14 g.len
  have hold : ∀ {t}, t < n.length → t < n4.length := fun ht => hl4 ▸ Nat.lt_add_right 2 ht
  -- the preparatory steps list one new target, `n.length + 1`, and no end-of-input target
  have htgt4 : ∀ a b, STgt (n4.st a) b → STgt (n.st a) b ∨ b = n.length + 1 := by
    intro a b hab
    rw [hst a] at hab
    rcases hab with hb | hb
    · split at hb
      · exact (insert_cases hb).imp_left Or.inl
      · exact Or.inl (Or.inl hb)
    · exact Or.inl (Or.inr hb)
  have heoi4 : ∀ a, (n4.st a).eoi = (n.st a).eoi := fun a => by rw [hst a]
  refine ⟨Nat.lt_trans h0 hN, ?_, ?_⟩
  · intro a b hab
    rcases g.tgt a b hab with h1 | rfl | h1
    · rcases htgt4 a b h1 with h1 | rfl
      · exact ⟨(hg.tgt a b h1).1, Nat.lt_trans (hg.tgt a b h1).2 hN⟩
      · exact ⟨Nat.succ_ne_zero _, hN1⟩
    · exact ⟨Nat.ne_of_gt h0, hN⟩
    · exact ⟨Nat.ne_of_gt (Nat.lt_of_lt_of_le (hold h0) h1.1), h1.2⟩
  · intro a t hat
    unfold NFA.virgin
    rcases g.eoi a t hat with h1 | ⟨_, rfl⟩
    · -- an old end-of-input target: an old state other than 0, which nothing touched
      rw [heoi4 a] at h1
      have hb := hg.tgt a t (Or.inr (Or.inr (Or.inl h1)))
      rw [g.old t (hold hb.2) (Nat.ne_of_lt (Nat.lt_succ_of_lt hb.2)), hst t, if_neg hb.1]
      exact hg.eoi a t h1
    · rw [g.old _ hN4 (Nat.ne_of_lt (Nat.lt_succ_self _)), hst _,
        if_neg (Nat.ne_of_gt h0), Subset.st_eq_empty_of_le (n := n) (Nat.le_refl _)]
      exact ⟨rfl, rfl, rfl, rfl, rfl⟩

theorem good_fold (rules : List CoreRule) : ∀ (n0 n : NFA), Good n0 → (∀ r ∈ rules, tailEoi r.re) →
    rules.foldlM (fun n r => n.addRegex r.re r.ctx r.value) n0 = .ok n → Good n := by
  induction rules with
  | nil =>
    intro n0 n hg _ h
    rw [List.foldlM_nil] at h
    cases h
    exact hg
  | cons r rest ih =>
    intro n0 n hg ht h
    rw [List.foldlM_cons] at h
    obtain ⟨n1, h1, h2⟩ := bind_eq_ok.mp h
    exact ih n1 n (good_step hg r.re (ht r List.mem_cons_self) r.ctx r.value h1)
      (fun x hx => ht x (List.mem_cons_of_mem _ hx)) h2

theorem Good.noIncoming0 (hg : Good n) : NoIncoming0 n := by
  intro s _
  have h0 : ¬ STgt (n.st s) 0 := fun h => (hg.tgt s 0 h).1 rfl
  exact ⟨fun h => h0 (Or.inl h), fun h => h0 (Or.inr (Or.inl h)), fun h => h0 (Or.inr (Or.inr (Or.inl h))),
    fun e he h => h0 (Or.inr (Or.inr (Or.inr (Or.inl ⟨e, he, h⟩)))),
    fun r hr h => h0 (Or.inr (Or.inr (Or.inr (Or.inr ⟨r, hr, h⟩))))⟩

theorem Good.eoiInert (hg : Good n) : EoiInert n := fun s t _ h => hg.eoi s t h

end NfaShape

/-- structural facts about the Thompson NFA of a rule set: nothing leads back to state 0, and (when `$` occurs only in tail position)
every end-of-input transition leads to a state without outgoing transitions (the rule's own accepting state) -/
theorem buildNfa_shape (rules : List CoreRule) (nfa : NFA) (h : buildNfa rules = .ok nfa)
    (ht : ∀ r ∈ rules, tailEoi r.re) : NoIncoming0 nfa ∧ EoiInert nfa := by
  have hg := NfaShape.good_fold rules NFA.new nfa NfaShape.good_new ht h
  exact ⟨hg.noIncoming0, hg.eoiInert⟩

end Lexgen
