import LexgenModel.Spec.Scan
import LexgenModel.Proofs.TableLookup
/-!
# `scan` (with backtrack elision and `Accept`-arm fall-through) equals `scanPlain`

Under the flag-closure, accept/any and target checks of `machineWF` and a correct dispatch, the
generated state code behaves as the plain DFA run with a saved last match.
-/
namespace Lexgen

variable {σ τ ε : Type}

namespace ScanPlain

theorem st_mem_or_empty {α : Type} (d : DFA α) (s : Nat) : d.st s ∈ d ∨ d.st s = DState.empty := by
  by_cases hs : s < d.length
  · left
    have : d.st s = d[s] := by simp [DFA.st, List.getD, hs]
    rw [this]
    exact List.getElem_mem hs
  · right
    simp [DFA.st, List.getD, Nat.le_of_not_lt hs]

theorem gotoSuccs_empty : gotoSuccs (DState.empty : DState Trans) = [] := by
  simp [gotoSuccs, DFA.succs, DState.empty]

theorem goto_mem_gotoSuccs (d : DState Trans) (t : Nat) (h : Trans.goto t ∈ DFA.succs d) :
    t ∈ gotoSuccs d := by
  simp only [gotoSuccs, List.mem_filterMap]
  exact ⟨_, h, rfl⟩

theorem st_mem_of_gotoSucc (d : DFA Trans) (s t : Nat) (ht : t ∈ gotoSuccs (d.st s)) : d.st s ∈ d :=
  (st_mem_or_empty d s).resolve_right fun he => by
    rw [he, gotoSuccs_empty] at ht
    cases ht

theorem flags_step (d : DFA Trans) (h : flagsClosed d = true) (s t : Nat)
    (ht : t ∈ gotoSuccs (d.st s))
    (hb : ((d.st s).backtrack || !(d.st s).accepting.isEmpty) = true) :
    (d.st t).backtrack = true := by
  simp only [flagsClosed, List.all_eq_true, decide_eq_true_eq] at h
  exact h _ (st_mem_of_gotoSucc d s t ht) hb t ht

theorem targets_lt (d : DFA Trans) (h : targetsOK d = true) (s t : Nat)
    (ht : t ∈ gotoSuccs (d.st s)) : t < d.length := by
  simp only [targetsOK, List.all_eq_true, Bool.and_eq_true, decide_eq_true_eq] at h
  exact (h _ (st_mem_of_gotoSucc d s t ht) t ht).1

theorem targets_not_initial (d : DFA Trans) (h : targetsOK d = true) (s t : Nat)
    (ht : t ∈ gotoSuccs (d.st s)) : (d.st t).initial = false := by
  simp only [targetsOK, List.all_eq_true, Bool.and_eq_true, decide_eq_true_eq] at h
  simpa using (h _ (st_mem_of_gotoSucc d s t ht) t ht).2

theorem any_of_accept (d : DFA Trans) (h : acceptAnyClause d = true) (s : Nat) (accs : List Acc)
    (x : Trans) (hmem : Trans.accept accs ∈ (d.st s).chars.map (·.2) ++ (d.st s).ranges.map (·.2.2))
    (hany : (d.st s).any = some x) :
    ∃ accs', x = .accept accs' ∧ isSublist accs' accs = true := by
  rcases st_mem_or_empty d s with hm | he
  · simp only [acceptAnyClause, List.all_eq_true] at h
    have h1 := h _ hm
    rw [hany] at h1
    simp only [List.all_eq_true] at h1
    have h2 := h1 _ hmem
    cases x with
    | goto t => simp at h2
    | accept accs' => exact ⟨accs', rfl, h2⟩
  · rw [he] at hany
    simp [DState.empty] at hany

theorem firstOK_sublist (ok : Nat → Bool) (l2 : List Acc) :
    ∀ l1 : List Acc, isSublist l1 l2 = true → firstOK ok l2 = none → firstOK ok l1 = none := by
  induction l2 with
  | nil =>
    intro l1 h _
    cases l1 with
    | nil => rfl
    | cons a as => simp [isSublist] at h
  | cons b bs ih =>
    intro l1 h hn
    cases l1 with
    | nil => rfl
    | cons a as =>
      simp only [isSublist] at h
      have hb : (∃ i, b.ctx = some i ∧ ok i = false) ∧ firstOK ok bs = none := by
        rw [firstOK] at hn
        split at hn
        · cases hn
        · split at hn
          · cases hn
          · exact ⟨⟨_, ‹_›, Bool.eq_false_iff.2 ‹_›⟩, hn⟩
      by_cases hab : (a == b) = true
      · simp only [hab, if_true] at h
        have hab' : a = b := by simpa using hab
        obtain ⟨⟨i, hc, hi⟩, hbs⟩ := hb
        simp only [firstOK, hab', hc, hi]
        simpa using ih as h hbs
      · simp only [hab] at h
        exact ih (a :: as) h hb.2

theorem setAccepting_inv (cfg : Config σ τ ε) (d : DState Trans) (st : LState σ)
    (h : st.last.isSome = true → d.backtrack = true) :
    (setAccepting cfg d st).last.isSome = true → (d.backtrack || !d.accepting.isEmpty) = true := by
  unfold setAccepting
  cases hf : firstOK (fun i => ctxOK cfg i st.iter) d.accepting with
  | none =>
    intro hl
    simp [h hl]
  | some a =>
    intro _
    have : d.accepting ≠ [] := by
      intro hnil
      rw [hnil] at hf
      simp [firstOK] at hf
    simp [this]

theorem failCode_eq_failPlain (d : DState Trans) (st : LState σ)
    (h : st.last.isSome = true → (d.backtrack || !d.accepting.isEmpty) = true) :
    failCode d st = failPlain st := by
  unfold failCode failPlain
  by_cases hb : (d.backtrack || !d.accepting.isEmpty) = true
  · simp only [hb, if_true]
    cases st.last <;> rfl
  · have hl : st.last = none := by
      cases hl : st.last with
      | none => rfl
      | some sv => exact absurd (h (by simp [hl])) hb
    simp only [hb, hl]
    cases st
    simp at hl
    simp

/-- Lexer state after the `set_accepting_state` chain and `self.0.next()` returning `Some(c)`. -/
def stepSt (cfg : Config σ τ ε) (d : DState Trans) (c : Nat) (rest : List Nat) (st : LState σ) :
    LState σ :=
  let st := setAccepting cfg d { st with iter := c :: rest }
  { st with iter := rest, curEnd := st.curEnd.advance cfg.width c }

/-- Lexer state after the `set_accepting_state` chain and `self.0.next()` returning `None`. -/
def eoiSt (cfg : Config σ τ ε) (d : DState Trans) (st : LState σ) : LState σ :=
  let st := setAccepting cfg d { st with iter := [] }
  { st with done := true }

/-- A `Goto` arm, with the code of the target given by `f`. -/
def gotoK (f : Nat → List Nat → LState σ → Outcome σ) (cfg : Config σ τ ε) (ns : Nat → Option Nat)
    (rest : List Nat) (st : LState σ) (t : Nat) : Outcome σ :=
  if inlinedAt cfg.inl t then f t rest st
  else
    let n := renumber cfg.inl t
    match ns n with
    | some t' => f t' rest { st with state := n }
    | none => .goto { st with state := n }

/-- A `match` on a looked-up transition: the `Goto` code `g`, the right-context tests of an `Accept`,
or else `k` (which is also where the tests fall through to). -/
def arm (cfg : Config σ τ ε) (st : LState σ) (g : Nat → Outcome σ) (k : Outcome σ) : Option Trans → Outcome σ
  | some (.goto t) => g t
  | some (.accept accs) => testRightCtxs cfg accs st (fun _ => k)
  | none => k

theorem scan_nil (cfg : Config σ τ ε) (ns : Nat → Option Nat) (s : Nat) (st : LState σ) :
    scan cfg ns s [] st =
      match (cfg.dfa.st s).eoi with
      | some (.accept accs) =>
        testRightCtxs cfg accs (eoiSt cfg (cfg.dfa.st s) st) (fun _ =>
          if s = 0 then .fin (eoiSt cfg (cfg.dfa.st s) st)
          else failCode (cfg.dfa.st s) (eoiSt cfg (cfg.dfa.st s) st))
      | some (.goto t) =>
        .goto { eoiSt cfg (cfg.dfa.st s) st with state := renumber cfg.inl t }
      | none =>
        if s = 0 then .fin (eoiSt cfg (cfg.dfa.st s) st)
        else failCode (cfg.dfa.st s) (eoiSt cfg (cfg.dfa.st s) st) := by
  rfl

theorem scanPlain_nil (cfg : Config σ τ ε) (ns : Nat → Option Nat) (s : Nat) (st : LState σ) :
    scanPlain cfg ns s [] st =
      arm cfg (eoiSt cfg (cfg.dfa.st s) st)
        (fun t => .goto { eoiSt cfg (cfg.dfa.st s) st with state := renumber cfg.inl t })
        (if s = 0 then .fin (eoiSt cfg (cfg.dfa.st s) st) else failPlain (eoiSt cfg (cfg.dfa.st s) st))
        (cfg.dfa.st s).eoi := by
  show (match (cfg.dfa.st s).eoi with | some (.accept accs) => _ | some (.goto t) => _ | none => _) = _
  rcases (cfg.dfa.st s).eoi with _ | t | accs <;> rfl

/-- `scan` looks the character up among the chars and ranges and keeps the any-transition for the
default arm, where `scanPlain` looks it up once in that order. -/
theorem scan_cons (cfg : Config σ τ ε) (ns : Nat → Option Nat) (s c : Nat) (rest : List Nat)
    (st : LState σ) :
    scan cfg ns s (c :: rest) st =
      arm cfg (stepSt cfg (cfg.dfa.st s) c rest st) (gotoK (scan cfg ns) cfg ns rest (stepSt cfg (cfg.dfa.st s) c rest st))
        (arm cfg (stepSt cfg (cfg.dfa.st s) c rest st) (gotoK (scan cfg ns) cfg ns rest (stepSt cfg (cfg.dfa.st s) c rest st))
          (failCode (cfg.dfa.st s) (stepSt cfg (cfg.dfa.st s) c rest st)) (cfg.dfa.st s).any)
        (match lookupChar (cfg.dfa.st s).chars c with
          | some t => some t
          | none => RangeMap.lookup (cfg.dfa.st s).ranges c) := by
  rfl

theorem scanPlain_cons (cfg : Config σ τ ε) (ns : Nat → Option Nat) (s c : Nat) (rest : List Nat)
    (st : LState σ) :
    scanPlain cfg ns s (c :: rest) st =
      arm cfg (stepSt cfg (cfg.dfa.st s) c rest st) (gotoK (scanPlain cfg ns) cfg ns rest (stepSt cfg (cfg.dfa.st s) c rest st))
        (failPlain (stepSt cfg (cfg.dfa.st s) c rest st)) (lookupTrans (cfg.dfa.st s) c) := by
  rfl

theorem eoiSt_inv (cfg : Config σ τ ε) (d : DState Trans) (st : LState σ)
    (h : st.last.isSome = true → d.backtrack = true) :
    (eoiSt cfg d st).last.isSome = true → (d.backtrack || !d.accepting.isEmpty) = true :=
  setAccepting_inv cfg d { st with iter := [] } h

theorem stepSt_inv (cfg : Config σ τ ε) (d : DState Trans) (c : Nat) (rest : List Nat)
    (st : LState σ) (h : st.last.isSome = true → d.backtrack = true) :
    (stepSt cfg d c rest st).last.isSome = true → (d.backtrack || !d.accepting.isEmpty) = true :=
  setAccepting_inv cfg d { st with iter := c :: rest } h

theorem testRightCtxs_fallthrough (cfg : Config σ τ ε) (accs accs' : List Acc) (st : LState σ)
    (hsub : isSublist accs' accs = true) (k : Outcome σ) :
    testRightCtxs cfg accs st (fun _ => testRightCtxs cfg accs' st (fun _ => k)) =
      testRightCtxs cfg accs st (fun _ => k) := by
  unfold testRightCtxs
  cases hf : firstOK (fun i => ctxOK cfg i st.iter) accs with
  | some a => rfl
  | none =>
    simp only []
    rw [firstOK_sublist _ accs accs' hsub hf]

theorem gotoK_congr (cfg : Config σ τ ε) (ns : Nat → Option Nat)
    (hns : DispatchOK cfg.dfa cfg.inl ns) (f g : Nat → List Nat → LState σ → Outcome σ)
    (rest : List Nat) (st : LState σ) (t : Nat) (ht : t < cfg.dfa.length)
    (hfg : ∀ st' : LState σ, st'.last = st.last → f t rest st' = g t rest st') :
    gotoK f cfg ns rest st t = gotoK g cfg ns rest st t := by
  unfold gotoK
  by_cases hi : inlinedAt cfg.inl t = true
  · simp only [hi, if_true]
    exact hfg st rfl
  · have hi' : inlinedAt cfg.inl t = false := by simpa using hi
    simp only [hi', Bool.false_eq_true, if_false, hns t ht hi']
    exact hfg _ rfl

theorem arm_congr (cfg : Config σ τ ε) (st : LState σ) (g g' : Nat → Outcome σ) (k : Outcome σ) (o : Option Trans)
    (hg : ∀ t, o = some (.goto t) → g t = g' t) : arm cfg st g k o = arm cfg st g' k o := by
  rcases o with _ | t | accs
  · rfl
  · exact hg t rfl
  · rfl

theorem arm_cases {P : Outcome σ → Prop} {cfg : Config σ τ ε} {st : LState σ} {g : Nat → Outcome σ} {k : Outcome σ}
    (o : Option Trans) (hg : ∀ t, o = some (.goto t) → P (g t))
    (ha : ∀ accs a, o = some (.accept accs) → firstOK (fun i => ctxOK cfg i st.iter) accs = some a →
      P (.act a { st with last := none }))
    (hk : (∀ t, o ≠ some (.goto t)) →
      (∀ accs a, o = some (.accept accs) → firstOK (fun i => ctxOK cfg i st.iter) accs ≠ some a) → P k) :
    P (arm cfg st g k o) := by
  rcases o with _ | t | accs
  · exact hk (fun _ h => by cases h) (fun _ _ h => by cases h)
  · exact hg t rfl
  · show P (testRightCtxs cfg accs st fun _ => k)
    unfold testRightCtxs
    cases hf : firstOK (fun i => ctxOK cfg i st.iter) accs with
    | some a => exact ha accs a rfl hf
    | none => exact hk (fun _ h => by cases h) (fun accs' a h hf' => by cases h; rw [hf] at hf'; cases hf')

/-- A char or range arm `x` of `scan` against the same arm of `scanPlain`: a failing `Accept` arm falls
through to the any-arm, and an `Accept` any-arm, listing a sublist, fails too. -/
theorem arm_fallthrough (cfg : Config σ τ ε) (st : LState σ) (any : Option Trans) (g g' : Nat → Outcome σ)
    (k : Outcome σ) (x : Trans) (hg : ∀ t, x = .goto t → g t = g' t)
    (hany : ∀ accs a, x = .accept accs → any = some a → ∃ accs', a = .accept accs' ∧ isSublist accs' accs = true) :
    arm cfg st g (arm cfg st g k any) (some x) = arm cfg st g' k (some x) := by
  cases x with
  | goto t => exact hg t rfl
  | accept accs =>
    show testRightCtxs cfg accs st (fun _ => arm cfg st g k any) = testRightCtxs cfg accs st (fun _ => k)
    cases ha : any with
    | none => rfl
    | some a =>
      obtain ⟨accs', rfl, hsub⟩ := hany accs a rfl ha
      exact testRightCtxs_fallthrough cfg accs accs' _ hsub _

end ScanPlain

open ScanPlain in
/-- By induction on the input. The hypothesis `hinv` is the invariant: a match is saved only while the scan is
in states flagged `backtrack`, which `flagsClosed` propagates along `goto`s; in the other states the generated
code omits the save, and nothing is there to fall back to. -/
theorem scan_eq_scanPlain (cfg : Config σ τ ε) (ns : Nat → Option Nat)
    (hflags : flagsClosed cfg.dfa = true) (hany : acceptAnyClause cfg.dfa = true)
    (htargets : targetsOK cfg.dfa = true) (hns : DispatchOK cfg.dfa cfg.inl ns)
    (s : Nat) (iter : List Nat) (st : LState σ)
    (hinv : st.last.isSome = true → (cfg.dfa.st s).backtrack = true) :
    scan cfg ns s iter st = scanPlain cfg ns s iter st := by
  induction iter generalizing s st with
  | nil =>
    rw [scan_nil, scanPlain_nil, failCode_eq_failPlain _ _ (eoiSt_inv cfg (cfg.dfa.st s) st hinv)]
    rcases (cfg.dfa.st s).eoi with _ | t | accs <;> rfl
  | cons c rest ih =>
    rw [scan_cons, scanPlain_cons]
    have hinv1 := stepSt_inv cfg (cfg.dfa.st s) c rest st hinv
    have hfail := failCode_eq_failPlain (cfg.dfa.st s) (stepSt cfg (cfg.dfa.st s) c rest st) hinv1
    rw [hfail]
    -- `Goto` arms: the invariant holds at the target
    have hgoto : ∀ t, Trans.goto t ∈ DFA.succs (cfg.dfa.st s) →
        gotoK (scan cfg ns) cfg ns rest (stepSt cfg (cfg.dfa.st s) c rest st) t =
          gotoK (scanPlain cfg ns) cfg ns rest (stepSt cfg (cfg.dfa.st s) c rest st) t := by
      intro t ht
      have hmem := goto_mem_gotoSuccs _ t ht
      apply gotoK_congr cfg ns hns _ _ _ _ t (targets_lt cfg.dfa htargets s t hmem)
      intro st' hl
      apply ih
      intro hsome
      rw [hl] at hsome
      exact flags_step cfg.dfa hflags s t hmem (hinv1 hsome)
    have harm := fun x (hx : x ∈ (cfg.dfa.st s).chars.map (·.2) ++ (cfg.dfa.st s).ranges.map (·.2.2))
        (hx' : x ∈ DFA.succs (cfg.dfa.st s)) =>
      arm_fallthrough cfg (stepSt cfg (cfg.dfa.st s) c rest st) (cfg.dfa.st s).any _ _
        (failPlain (stepSt cfg (cfg.dfa.st s) c rest st)) x (fun t ht => hgoto t (ht ▸ hx'))
        (fun accs a hxa ha => any_of_accept cfg.dfa hany s accs a (hxa ▸ hx) ha)
    unfold lookupTrans
    cases hc : lookupChar (cfg.dfa.st s).chars c with
    | some x =>
      have hx := lookupChar_mem _ _ _ hc
      exact harm x (List.mem_append_left _ hx) (char_mem_succs _ _ hx)
    | none =>
      cases hr : RangeMap.lookup (cfg.dfa.st s).ranges c with
      | some x =>
        have hx := rangeLookup_mem _ _ _ hr
        exact harm x (List.mem_append_right _ hx) (range_mem_succs _ _ hx)
      | none => exact arm_congr cfg _ _ _ _ _ (fun t ha => hgoto t (any_mem_succs _ _ ha))

end Lexgen
