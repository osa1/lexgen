import LexgenModel.Spec.Lang
import LexgenModel.Proofs.ClassEval
import LexgenModel.Proofs.RangeMapValues
import LexgenModel.Proofs.SubsetSets

/-!
# Thompson construction: edges of the model NFA and the effect of one `add…Transition`

`Edge n a x b` is the labelled edge relation of an NFA (`x = none` for ε). Every `add…Transition`
function adds one family of edges `s —x→ t` (`Step`), and changes nothing else.
-/

namespace Lexgen

namespace NfaShape

/-- `b` is listed as a target of some transition of `st`: what `NFAWF.targets` bounds. It belongs
to the shape invariant of `Proofs/NfaShape.lean` and stands here because the edge relation is
compared with it (`stgt_of_sedge`, `sedge_of_stgt`). -/
def STgt (st : NState) (b : Nat) : Prop :=
  b ∈ st.eps ∨ b ∈ st.any ∨ b ∈ st.eoi ∨ (∃ e ∈ st.chars, b ∈ e.2) ∨ (∃ r ∈ st.ranges, b ∈ r.2.2)

theorem stgt_empty (b : Nat) : ¬ STgt NState.empty b := by
  rintro (h | h | h | ⟨e, h, _⟩ | ⟨r, h, _⟩) <;> cases h

end NfaShape

namespace Thompson
open RangeMap
open NfaShape (STgt)
open Subset (mem_setInsert mem_setUnion st_eq_empty_of_le all_states ranges_wf_all charsNodup_all ranges_lookup)

variable {n n' n1 n2 : NFA} {s t : Nat} {X Y : Option Sym → Prop}

theorem ne_of_eq_or_le {a c cur N : Nat} (ha : a < N) (hne : a ≠ cur) (hc : c = cur ∨ N ≤ c) : a ≠ c :=
  hc.elim (fun h => h ▸ hne) (fun h => Nat.ne_of_lt (Nat.lt_of_lt_of_le ha h))

theorem tgt_of_eq_or_le {b k cont N m : Nat} (hk : k = cont ∨ N ≤ k) (hm : N ≤ m) (h : b = k ∨ m ≤ b) :
    b = cont ∨ N ≤ b :=
  h.elim (fun e => e ▸ hk) (fun e => Or.inr (Nat.le_trans hm e))

theorem st_new (a : Nat) : NFA.new.st a = NState.empty := by
  cases a with
  | zero => rfl
  | succ k => exact st_eq_empty_of_le (n := NFA.new) (Nat.le_add_left 1 k)

theorem st_newState (n : NFA) (a : Nat) : (n.newState.1).st a = n.st a := by
  simp only [NFA.newState, NFA.st, List.getD_eq_getElem?_getD, List.getElem?_append]
  by_cases h : a < n.length
  · simp only [h, if_true]
  · simp only [h, if_false]
    rw [List.getElem?_eq_none (Nat.le_of_not_lt h)]
    cases a - n.length <;> rfl

theorem length_newState (n : NFA) : (n.newState.1).length = n.length + 1 := by
  simp [NFA.newState]

theorem length_newState2 (n : NFA) : n.newState.1.newState.1.length = n.length + 2 := by
  rw [length_newState, length_newState]

theorem newState_snd (n : NFA) : n.newState.2 = n.length := rfl

theorem st_modify_self (n : NFA) (s : Nat) (f : NState → NState) (h : s < n.length) :
    NFA.st (List.modify n s f) s = f (n.st s) := by
  simp only [NFA.st, List.getD_eq_getElem?_getD, List.getElem?_modify, List.getElem?_eq_getElem h,
    Option.map_eq_map, Option.map_some, if_true, Option.getD_some]

theorem st_modify_ne (n : NFA) (s a : Nat) (f : NState → NState) (h : a ≠ s) :
    NFA.st (List.modify n s f) a = n.st a := by
  simp only [NFA.st, List.getD_eq_getElem?_getD, List.getElem?_modify]
  have : ¬ s = a := fun e => h e.symm
  cases n[a]? <;> simp [this]


def SEdge (st : NState) (x : Option Sym) (b : Nat) : Prop :=
  match x with
  | none => b ∈ st.eps
  | some (.ch c) => (∃ tg, (c, tg) ∈ st.chars ∧ b ∈ tg) ∨
      (∃ r ∈ st.ranges, r.1 ≤ c ∧ c ≤ r.2.1 ∧ b ∈ r.2.2) ∨ b ∈ st.any
  | some .eoi => b ∈ st.eoi

def Edge (n : NFA) (a : Nat) (x : Option Sym) (b : Nat) : Prop := SEdge (n.st a) x b

theorem edge_eps {a b : Nat} : Edge n a none b ↔ b ∈ (n.st a).eps := Iff.rfl

theorem edge_sym {a b : Nat} {y : Sym} : Edge n a (some y) b ↔ NFA.stepSym n a y b := by
  cases y <;> exact Iff.rfl

theorem sedge_acc (st : NState) (a : Option Acc) (x : Option Sym) (b : Nat) :
    SEdge { st with acc := a } x b ↔ SEdge st x b := by
  cases x with
  | none => exact Iff.rfl
  | some y => cases y <;> exact Iff.rfl

theorem sedge_addEps (st : NState) (t : Nat) (x : Option Sym) (b : Nat) :
    SEdge { st with eps := setInsert t st.eps } x b ↔ SEdge st x b ∨ (x = none ∧ b = t) := by
  cases x with
  | none => exact mem_setInsert.trans (or_comm.trans (or_congr_right (and_iff_right rfl).symm))
  | some y => cases y <;> exact (or_iff_left fun h => nomatch h.1).symm

theorem sedge_virgin {st : NState} (hv : st.chars = [] ∧ st.ranges = [] ∧ st.eps = [] ∧ st.any = [] ∧ st.eoi = [])
    (x : Option Sym) (b : Nat) : ¬ SEdge st x b := by
  obtain ⟨h1, h2, h3, h4, h5⟩ := hv
  intro h
  cases x with
  | none => simp only [SEdge, h3] at h; cases h
  | some y =>
    cases y with
    | ch c =>
      simp only [SEdge, h1, h2, h4] at h
      rcases h with ⟨tg, h, _⟩ | ⟨r, h, _⟩ | h <;> cases h
    | eoi => simp only [SEdge, h5] at h; cases h

theorem sedge_empty (x : Option Sym) (b : Nat) : ¬ SEdge NState.empty x b :=
  sedge_virgin ⟨rfl, rfl, rfl, rfl, rfl⟩ x b

theorem edge_virgin (hv : NFA.virgin n s) (x : Option Sym) (b : Nat) : ¬ Edge n s x b :=
  sedge_virgin hv x b

theorem edge_ge {a : Nat} (h : n.length ≤ a) (x : Option Sym) (b : Nat) : ¬ Edge n a x b := by
  unfold Edge; rw [st_eq_empty_of_le h]; exact sedge_empty x b

theorem edge_lt {a b : Nat} {x : Option Sym} (h : Edge n a x b) : a < n.length := by
  apply Nat.lt_of_not_le; intro hle; exact edge_ge hle x b h

theorem stgt_of_sedge {st : NState} {x : Option Sym} {b : Nat} (h : SEdge st x b) : STgt st b := by
  cases x with
  | none => exact Or.inl h
  | some y =>
    cases y with
    | eoi => exact Or.inr (Or.inr (Or.inl h))
    | ch c =>
      rcases h with ⟨tg, h1, h2⟩ | ⟨r, h1, _, _, h2⟩ | h
      · exact Or.inr (Or.inr (Or.inr (Or.inl ⟨(c, tg), h1, h2⟩)))
      · exact Or.inr (Or.inr (Or.inr (Or.inr ⟨r, h1, h2⟩)))
      · exact Or.inr (Or.inl h)

theorem sedge_of_stgt {st : NState} {b : Nat} (hr : ∀ r ∈ st.ranges, r.1 ≤ r.2.1) (h : STgt st b) :
    ∃ x, SEdge st x b := by
  rcases h with h | h | h | ⟨e, he1, he2⟩ | ⟨r, hr1, hr2⟩
  · exact ⟨none, h⟩
  · exact ⟨some (.ch 0), Or.inr (Or.inr h)⟩
  · exact ⟨some .eoi, h⟩
  · exact ⟨some (.ch e.1), Or.inl ⟨e.2, he1, he2⟩⟩
  · exact ⟨some (.ch r.1), Or.inr (Or.inl ⟨r, hr1, Nat.le_refl _, hr r hr1, hr2⟩)⟩

theorem wfFrom_mapVals {α β : Type} (f : α → β) (m : RangeMap α) (lo : Nat) (h : WFFrom lo m) :
    WFFrom lo (mapVals f m) := by
  induction m generalizing lo with
  | nil => trivial
  | cons r rest ih =>
    obtain ⟨s, e, v⟩ := r
    exact ⟨h.1, h.2.1, ih _ h.2.2⟩

theorem mapVals_edge (m : RangeMap Unit) (t c b : Nat) :
    (∃ r ∈ mapVals (fun _ => [t]) m, r.1 ≤ c ∧ c ≤ r.2.1 ∧ b ∈ r.2.2) ↔
      ((lookup m c).isSome = true ∧ b = t) := by
  rw [lookup_isSome_iff]
  constructor
  · rintro ⟨r, hr, h1, h2, hb⟩
    obtain ⟨r0, hr0, rfl⟩ := List.mem_map.mp hr
    exact ⟨⟨r0, hr0, h1, h2⟩, List.mem_singleton.mp hb⟩
  · rintro ⟨⟨r0, hr0, h1, h2⟩, rfl⟩
    exact ⟨_, List.mem_map_of_mem hr0, h1, h2, List.mem_singleton_self b⟩


theorem guard_ok_iff {α : Type} {c : Bool} {e : CompileError} {x y : α} :
    (if c = true then Except.error e else Except.ok x) = .ok y ↔ c = false ∧ y = x := by
  cases c
  · exact ⟨fun h => ⟨rfl, (Except.ok.inj h).symm⟩, fun h => h.2 ▸ rfl⟩
  · exact ⟨fun h => (nomatch h), fun h => (nomatch h.1)⟩

theorem contains_eq_false {l : List Nat} : l.contains t = false ↔ t ∉ l := by
  rw [← Bool.not_eq_true, List.contains_iff_mem]

theorem addEps_ok_iff : n.addEmptyTransition s t = .ok n' ↔
    t ∉ (n.st s).eps ∧ n' = n.modify s fun st => { st with eps := setInsert t st.eps } := by
  unfold NFA.addEmptyTransition
  rw [guard_ok_iff, contains_eq_false]

theorem addAny_ok_iff : n.addAnyTransition s t = .ok n' ↔
    t ∉ (n.st s).any ∧ n' = n.modify s fun st => { st with any := setInsert t st.any } := by
  unfold NFA.addAnyTransition
  rw [guard_ok_iff, contains_eq_false]

theorem addEoi_ok_iff : n.addEoiTransition s t = .ok n' ↔
    t ∉ (n.st s).eoi ∧ n' = n.modify s fun st => { st with eoi := setInsert t st.eoi } := by
  unfold NFA.addEoiTransition
  rw [guard_ok_iff, contains_eq_false]

theorem makeAcc_ok_iff {a : Acc} : n.makeStateAccepting s a = .ok n' ↔
    (n.st s).acc.isSome = false ∧ n' = n.modify s fun st => { st with acc := some a } := by
  unfold NFA.makeStateAccepting
  rw [guard_ok_iff]

theorem addChar_ok_cases {c : Nat} (h : n.addCharTransition s c t = .ok n') :
    (∃ tgts, (c, tgts) ∈ (n.st s).chars ∧ n' = n.modify s fun st =>
        { st with chars := st.chars.map fun e => if e.1 = c then (e.1, setInsert t e.2) else e }) ∨
    ((∀ e ∈ (n.st s).chars, e.1 ≠ c) ∧
      n' = n.modify s fun st => { st with chars := st.chars ++ [(c, [t])] }) := by
  unfold NFA.addCharTransition at h
  simp only at h
  split at h
  · rename_i k tgts hfind
    have hk : k = c := by simpa using List.find?_some hfind
    rw [guard_ok_iff] at h
    exact Or.inl ⟨tgts, hk ▸ List.mem_of_find?_eq_some hfind, h.2⟩
  · rename_i hfind
    exact Or.inr ⟨fun e he => by simpa using List.find?_eq_none.mp hfind e he, (Except.ok.inj h).symm⟩

theorem addChar_fresh {c : Nat} (t : Nat) (h : ∀ e ∈ (n.st s).chars, e.1 ≠ c) :
    n.addCharTransition s c t = .ok (n.modify s fun st => { st with chars := st.chars ++ [(c, [t])] }) := by
  unfold NFA.addCharTransition
  simp only
  rw [List.find?_eq_none.mpr (fun e he => by simpa using h e he)]

/-- `TargetsNonempty` for one state -/
def SNonempty (st : NState) : Prop :=
  (∀ e ∈ st.chars, e.2 ≠ []) ∧ (∀ r ∈ st.ranges, r.2.2 ≠ [])

structure Step (n n' : NFA) (s : Nat) (X : Option Sym → Prop) (t : Nat) : Prop where
  len : n'.length = n.length
  other : ∀ a, a ≠ s → n'.st a = n.st a
  acc : (n'.st s).acc = (n.st s).acc
  edge : ∀ x b, SEdge (n'.st s) x b ↔ SEdge (n.st s) x b ∨ (X x ∧ b = t)
  /-- the last three fields say that `s` keeps what `NFAWF` and `TargetsNonempty` ask of a state:
  a well-formed range map, distinct keys in the character map, non-empty target sets -/
  rwf : RangeMap.WF (n.st s).ranges → RangeMap.WF (n'.st s).ranges
  cnd : ((n.st s).chars.map (·.1)).Nodup → ((n'.st s).chars.map (·.1)).Nodup
  tne : SNonempty (n.st s) → SNonempty (n'.st s)

theorem snonempty_empty : SNonempty NState.empty :=
  ⟨fun _ h => (nomatch h), fun _ h => (nomatch h)⟩

theorem step_modify (n : NFA) (s : Nat) (f : NState → NState) (X : Option Sym → Prop) (t : Nat)
    (hs : s < n.length)
    (hacc : (f (n.st s)).acc = (n.st s).acc)
    (hedge : ∀ x b, SEdge (f (n.st s)) x b ↔ SEdge (n.st s) x b ∨ (X x ∧ b = t))
    (hr : RangeMap.WF (n.st s).ranges → RangeMap.WF (f (n.st s)).ranges)
    (hc : ((n.st s).chars.map (·.1)).Nodup → ((f (n.st s)).chars.map (·.1)).Nodup)
    (ht : SNonempty (n.st s) → SNonempty (f (n.st s))) :
    Step n (List.modify n s f) s X t := by
  rw [← st_modify_self n s f hs] at hacc hedge hr hc ht
  exact ⟨List.length_modify _ _ _, fun a ha => st_modify_ne n s a f ha, hacc, hedge, hr, hc, ht⟩

theorem step_addEps (h : n.addEmptyTransition s t = .ok n') (hs : s < n.length) :
    Step n n' s (fun x => x = none) t := by
  obtain ⟨_, rfl⟩ := addEps_ok_iff.mp h
  exact step_modify n s (fun st => { st with eps := setInsert t st.eps }) _ t hs rfl (sedge_addEps _ t) id id id

theorem step_addAny (h : n.addAnyTransition s t = .ok n') (hs : s < n.length) :
    Step n n' s (fun x => ∃ c, x = some (.ch c)) t := by
  obtain ⟨_, rfl⟩ := addAny_ok_iff.mp h
  refine step_modify n s (fun st => { st with any := setInsert t st.any }) _ t hs rfl ?_ id id id
  intro x b
  cases x with
  | none => simp [SEdge]
  | some y =>
    cases y with
    | eoi => simp [SEdge]
    | ch c =>
      simp only [SEdge, mem_setInsert, Option.some.injEq, Sym.ch.injEq, exists_eq', true_and]
      rw [or_comm (a := b = t)]
      simp only [or_assoc]

theorem step_addEoi (h : n.addEoiTransition s t = .ok n') (hs : s < n.length) :
    Step n n' s (fun x => x = some .eoi) t := by
  obtain ⟨_, rfl⟩ := addEoi_ok_iff.mp h
  refine step_modify n s (fun st => { st with eoi := setInsert t st.eoi }) _ t hs rfl ?_ id id id
  intro x b
  cases x with
  | none => exact (or_iff_left fun h => nomatch h.1).symm
  | some y =>
    cases y with
    | ch c => exact (or_iff_left fun h => nomatch h.1).symm
    | eoi => exact mem_setInsert.trans (or_comm.trans (or_congr_right (and_iff_right rfl).symm))


theorem sedge_chars_congr (st : NState) (chars' : List (Nat × List Nat)) (c t : Nat)
    (hch : ∀ c' b, (∃ tg, (c', tg) ∈ chars' ∧ b ∈ tg) ↔ (∃ tg, (c', tg) ∈ st.chars ∧ b ∈ tg) ∨ (c' = c ∧ b = t))
    (x : Option Sym) (b : Nat) :
    SEdge { st with chars := chars' } x b ↔ SEdge st x b ∨ (x = some (.ch c) ∧ b = t) := by
  cases x with
  | none => simp [SEdge]
  | some y =>
    cases y with
    | eoi => simp [SEdge]
    | ch c' =>
      simp only [SEdge, hch c' b, Option.some.injEq, Sym.ch.injEq]
      exact or_right_comm

theorem step_addChar {c : Nat} (h : n.addCharTransition s c t = .ok n') (hs : s < n.length) :
    Step n n' s (fun x => x = some (.ch c)) t := by
  rcases addChar_ok_cases h with ⟨tgts, hmem, rfl⟩ | ⟨hnone, rfl⟩
  · apply step_modify n s (fun st => { st with chars := st.chars.map fun e => if e.1 = c then (e.1, setInsert t e.2) else e })
      _ _ hs rfl _ id
    · intro hnd
      show (List.map (fun e : Nat × List Nat => e.1) (List.map _ (n.st s).chars)).Nodup
      rwa [List.map_map, List.map_congr_left (g := (·.1)) fun e _ => by dsimp only [Function.comp]; split <;> rfl]
    · rintro ⟨h1, h2⟩
      refine ⟨?_, h2⟩
      intro e he
      obtain ⟨e0, he0, rfl⟩ := List.mem_map.mp he
      split
      · exact Subset.setInsert_ne_nil t e0.2
      · exact h1 e0 he0
    · apply sedge_chars_congr
      intro c' b
      constructor
      · rintro ⟨tg, hm, hb⟩
        obtain ⟨e0, he0, heq⟩ := List.mem_map.mp hm
        split at heq <;> cases heq
        · exact (mem_setInsert.mp hb).elim (fun h => Or.inr ⟨‹e0.1 = c›, h⟩) fun h => Or.inl ⟨e0.2, he0, h⟩
        · exact Or.inl ⟨_, he0, hb⟩
      · rintro (⟨tg, hm, hb⟩ | ⟨rfl, rfl⟩)
        · by_cases hc : c' = c
          · exact ⟨setInsert t tg, List.mem_map.mpr ⟨(c', tg), hm, if_pos hc⟩,
              mem_setInsert.mpr (Or.inr hb)⟩
          · exact ⟨tg, List.mem_map.mpr ⟨(c', tg), hm, if_neg hc⟩, hb⟩
        · exact ⟨setInsert b tgts, List.mem_map.mpr ⟨(c', tgts), hmem, if_pos rfl⟩,
            mem_setInsert.mpr (Or.inl rfl)⟩
  · apply step_modify n s (fun st => { st with chars := st.chars ++ [(c, [t])] }) _ _ hs rfl _ id
    · intro hnd
      show (List.map (fun e : Nat × List Nat => e.1) ((n.st s).chars ++ [(c, [t])])).Nodup
      rw [List.map_append, List.nodup_append]
      refine ⟨hnd, List.nodup_cons.mpr ⟨List.not_mem_nil, List.nodup_nil⟩, fun a ha b hb => ?_⟩
      obtain ⟨e, he, rfl⟩ := List.mem_map.mp ha
      exact List.mem_singleton.mp hb ▸ hnone e he
    · rintro ⟨h1, h2⟩
      refine ⟨?_, h2⟩
      intro e he
      rcases List.mem_append.mp he with he | he
      · exact h1 e he
      · rw [List.mem_singleton.mp he]
        exact List.cons_ne_nil _ _
    · apply sedge_chars_congr
      intro c' b
      constructor
      · rintro ⟨tg, hm, hb⟩
        rcases List.mem_append.mp hm with hm | hm
        · exact Or.inl ⟨tg, hm, hb⟩
        · cases List.mem_singleton.mp hm
          exact Or.inr ⟨rfl, List.mem_singleton.mp hb⟩
      · rintro (⟨tg, hm, hb⟩ | ⟨rfl, rfl⟩)
        · exact ⟨tg, List.mem_append.mpr (Or.inl hm), hb⟩
        · exact ⟨[b], List.mem_append.mpr (Or.inr (List.mem_singleton.mpr rfl)), List.mem_singleton.mpr rfl⟩


theorem sedge_ranges_congr (st : NState) (ranges' : RangeMap (List Nat)) (R : Nat → Prop) (t : Nat)
    (hr : ∀ c b, (∃ r ∈ ranges', r.1 ≤ c ∧ c ≤ r.2.1 ∧ b ∈ r.2.2) ↔
      (∃ r ∈ st.ranges, r.1 ≤ c ∧ c ≤ r.2.1 ∧ b ∈ r.2.2) ∨ (R c ∧ b = t))
    (x : Option Sym) (b : Nat) :
    SEdge { st with ranges := ranges' } x b ↔ SEdge st x b ∨ ((∃ c, x = some (.ch c) ∧ R c) ∧ b = t) := by
  cases x with
  | none => simp [SEdge]
  | some y =>
    cases y with
    | eoi => simp [SEdge]
    | ch c' =>
      simp only [SEdge, hr c' b, Option.some.injEq, Sym.ch.injEq, exists_eq_left']
      rw [or_right_comm (b := R c' ∧ b = t)]
      simp only [or_assoc]

theorem step_addRange (n : NFA) (s rs re t : Nat) (hs : s < n.length) (hse : rs ≤ re)
    (hwf : RangeMap.WF (n.st s).ranges) :
    Step n (n.addRangeTransition s rs re t) s (fun x => ∃ c, x = some (.ch c) ∧ (rs ≤ c ∧ c ≤ re)) t := by
  unfold NFA.addRangeTransition
  have ⟨w, lk⟩ := insert_spec setUnion (n.st s).ranges rs re [t] hwf hse
  apply step_modify n s (fun st => { st with ranges := RangeMap.insert setUnion st.ranges rs re [t] }) _ _ hs rfl _
    (fun _ => w) id
  · rintro ⟨h1, h2⟩
    exact ⟨h1, NfaShape.insertAux_allV setUnion (· ≠ []) [t] (List.cons_ne_nil _ _)
      (fun _ _ => Subset.setUnion_ne_nil_right (List.cons_ne_nil t [])) _ none rs re h2⟩
  · apply sedge_ranges_congr
    intro c b
    rw [ranges_lookup w c b, ranges_lookup hwf c b, lk c, mem_mergeOpt (fun _ _ _ => mem_setUnion), List.mem_singleton, decide_eq_true_iff]

theorem step_addRanges (n : NFA) (s : Nat) (m : RangeMap Unit) (t : Nat) (hs : s < n.length)
    (hm : RangeMap.WF m) (hv : (n.st s).ranges = []) :
    Step n (n.addRangeTransitions s m t) s
      (fun x => ∃ c, x = some (.ch c) ∧ (lookup m c).isSome = true) t := by
  unfold NFA.addRangeTransitions
  have hins : RangeMap.insertRanges setUnion (n.st s).ranges (RangeMap.mapVals (fun _ => [t]) m)
      = RangeMap.mapVals (fun _ => [t]) m := by
    rw [hv, insertRanges_nil_left]
  apply step_modify _ _ _ _ _ hs rfl _ _ id
  all_goals rw [hins]
  · exact fun h => ⟨h.1, NfaShape.allV_mapVals (P := (· ≠ [])) (fun _ => [t]) m fun _ => List.cons_ne_nil _ _⟩
  · apply sedge_ranges_congr
    intro c b
    rw [mapVals_edge, hv]
    exact (or_iff_right fun ⟨_, hr, _⟩ => nomatch hr).symm
  · exact fun _ => wfFrom_mapVals (fun _ => [t]) m 0 hm


/-- every listed set of transition targets is non-empty: the hypothesis `Subset.TargetsNonempty`
of the subset construction, as the Thompson construction establishes it -/
def TargetsNonempty (nfa : NFA) : Prop :=
  ∀ s, s < nfa.length → (∀ e ∈ (nfa.st s).chars, e.2 ≠ []) ∧ (∀ r ∈ (nfa.st s).ranges, r.2.2 ≠ [])

theorem targetsNonempty_iff (nfa : NFA) : TargetsNonempty nfa ↔ Subset.TargetsNonempty nfa := Iff.rfl

theorem tne_all (h : TargetsNonempty n) : ∀ s, SNonempty (n.st s) :=
  all_states snonempty_empty h

theorem Step.edges (h : Step n n' s X t)
    (a : Nat) (x : Option Sym) (b : Nat) :
    Edge n' a x b ↔ Edge n a x b ∨ (a = s ∧ X x ∧ b = t) := by
  unfold Edge
  by_cases ha : a = s
  · subst ha
    rw [h.edge]
    simp only [true_and]
  · rw [h.other a ha]
    simp only [ha, false_and, or_false]

theorem edge_target_lt (hwf : NFAWF n) {a b : Nat} {x : Option Sym} (h : Edge n a x b) :
    b < n.length :=
  hwf.targets a (edge_lt h) b (stgt_of_sedge h)

theorem wf_of_edges (h0 : 0 < n.length)
    (hr : ∀ s, s < n.length → RangeMap.WF (n.st s).ranges)
    (hc : ∀ s, s < n.length → ((n.st s).chars.map (·.1)).Nodup)
    (he : ∀ a x b, Edge n a x b → b < n.length) : NFAWF n := by
  refine ⟨h0, hr, hc, fun s hs t ht => ?_⟩
  obtain ⟨x, hx⟩ := sedge_of_stgt (fun _ hm => ((hr s hs).mem hm).2) ht
  exact he s x t hx

theorem Step.lift (h : Step n n' s X t) {P : NState → Prop}
    (hP : P (n.st s) → P (n'.st s)) (a : Nat) (ha : P (n.st a)) : P (n'.st a) := by
  by_cases hs : a = s
  · subst hs; exact hP ha
  · rw [h.other a hs]; exact ha

theorem Step.wf (h : Step n n' s X t)
    (hwf : NFAWF n) (ht : t < n.length) : NFAWF n' := by
  refine wf_of_edges (h.len ▸ hwf.nonempty) (fun a _ => h.lift (P := fun st => RangeMap.WF st.ranges) h.rwf a (ranges_wf_all hwf a))
    (fun a _ => h.lift (P := fun st => (st.chars.map (·.1)).Nodup) h.cnd a (charsNodup_all hwf a))
    (fun a x b hab => ?_)
  rw [h.len]
  rcases (h.edges a x b).mp hab with h1 | ⟨_, _, h1⟩
  · exact edge_target_lt hwf h1
  · exact h1 ▸ ht

theorem Step.accAll (h : Step n n' s X t) (a : Nat) :
    (n'.st a).acc = (n.st a).acc := by
  by_cases hs : a = s
  · subst hs; exact h.acc
  · rw [h.other a hs]

theorem Step.tneAll (h : Step n n' s X t)
    (hne : TargetsNonempty n) : TargetsNonempty n' :=
  fun a _ => h.lift (P := SNonempty) h.tne a (tne_all hne a)

theorem Step.skip (n : NFA) (s t : Nat) (X : Option Sym → Prop) (h : ∀ x, X x → Edge n s x t) :
    Step n n s X t := by
  refine ⟨rfl, fun _ _ => rfl, rfl, fun x b => ?_, id, id, id⟩
  exact (or_iff_left_of_imp fun h1 => h1.2 ▸ h x h1.1).symm

theorem Step.trans
    (h1 : Step n n1 s X t) (h2 : Step n1 n2 s Y t) : Step n n2 s (fun x => X x ∨ Y x) t := by
  refine ⟨by rw [h2.len, h1.len], fun a ha => by rw [h2.other a ha, h1.other a ha],
    by rw [h2.acc, h1.acc], ?_, fun h => h2.rwf (h1.rwf h), fun h => h2.cnd (h1.cnd h),
    fun h => h2.tne (h1.tne h)⟩
  intro x b
  rw [h2.edge, h1.edge, or_assoc, or_and_right]

theorem Step.congr (h : Step n n' s X t)
    (hxy : ∀ x, X x ↔ Y x) : Step n n' s Y t := by
  refine ⟨h.len, h.other, h.acc, ?_, h.rwf, h.cnd, h.tne⟩
  intro x b
  rw [h.edge, hxy]

end Thompson
end Lexgen
