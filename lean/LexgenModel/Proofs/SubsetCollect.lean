import LexgenModel.Proofs.SubsetSets
/-!
# Subset construction: what `collect` gathers over the members of a DFA state
-/
namespace Lexgen.Subset
open Lexgen

def optMem (o : Option (List Nat)) (t : Nat) : Prop := ∃ v, o = some v ∧ t ∈ v

theorem optMem_none (m : Nat) : ¬ optMem none m := by
  rintro ⟨v, hv, _⟩; cases hv

theorem optMem_some (v : List Nat) (m : Nat) : optMem (some v) m ↔ m ∈ v := by
  constructor
  · rintro ⟨v', hv, h⟩; cases hv; exact h
  · intro h; exact ⟨v, rfl, h⟩

theorem mergeOpt_ite (o : Option (List Nat)) (b : Bool) (v : List Nat) :
    RangeMap.mergeOpt setUnion o b v =
      if b then some (match o with | some x => setUnion x v | none => v) else o := by
  cases o <;> cases b <;> rfl

theorem optMem_mergeOpt (o : Option (List Nat)) (b : Bool) (v : List Nat) (t : Nat) :
    optMem (RangeMap.mergeOpt setUnion o b v) t ↔ optMem o t ∨ (b = true ∧ t ∈ v) :=
  RangeMap.mem_mergeOpt (fun _ _ _ => mem_setUnion) o b v t

/-- A fold of inserts, each merging `val a` into the values at the keys that `cov a` covers
(`charMapInsert` and `RangeMap.insert setUnion` are such inserts). -/
theorem mergeFold_spec {α M : Type} (lk : M → Nat → Option (List Nat)) (ins : M → α → M)
    (cov : α → Nat → Prop) [∀ a c, Decidable (cov a c)] (val : α → List Nat) (P : M → Prop) (E : List α)
    (hins : ∀ m, P m → ∀ a ∈ E, P (ins m a) ∧
      ∀ c, lk (ins m a) c = RangeMap.mergeOpt setUnion (lk m c) (decide (cov a c)) (val a)) :
    ∀ m, P m → P (E.foldl ins m) ∧
      (∀ c, (lk (E.foldl ins m) c).isSome = true ↔ (lk m c).isSome = true ∨ ∃ a ∈ E, cov a c) ∧
      (∀ c t, optMem (lk (E.foldl ins m) c) t ↔ optMem (lk m c) t ∨ ∃ a ∈ E, cov a c ∧ t ∈ val a) := by
  induction E with
  | nil => exact fun m hm => ⟨hm, fun c => by simp, fun c t => by simp⟩
  | cons a E ih =>
    intro m hm
    obtain ⟨w, hl⟩ := hins m hm a List.mem_cons_self
    obtain ⟨i1, i2, i3⟩ := ih (fun m hm a ha => hins m hm a (List.mem_cons_of_mem _ ha)) _ w
    refine ⟨i1, fun c => ?_, fun c t => ?_⟩
    · rw [List.foldl_cons, i2, hl, RangeMap.isSome_mergeOpt, Bool.or_eq_true]
      simp only [List.mem_cons, exists_eq_or_imp, or_assoc, decide_eq_true_eq]
    · rw [List.foldl_cons, i3, hl, optMem_mergeOpt]
      simp only [List.mem_cons, exists_eq_or_imp, or_assoc, decide_eq_true_eq]

def CMFrom (lo : Nat) : List (Nat × List Nat) → Prop
  | [] => True
  | (k, _) :: rest => lo ≤ k ∧ CMFrom (k + 1) rest

theorem CMFrom.mono {lo lo' : Nat} {m : List (Nat × List Nat)} (h : CMFrom lo m) (hle : lo' ≤ lo) :
    CMFrom lo' m := by
  cases m with
  | nil => trivial
  | cons e rest => obtain ⟨k, v⟩ := e; exact ⟨Nat.le_trans hle h.1, h.2⟩

theorem lookupChar_none_of_lt {lo : Nat} {m : List (Nat × List Nat)} (h : CMFrom lo m) {c : Nat}
    (hc : c < lo) : lookupChar m c = none := by
  induction m generalizing lo with
  | nil => rfl
  | cons e rest ih =>
    obtain ⟨k, v⟩ := e
    simp only [lookupChar]
    have h1 := h.1
    rw [if_neg (by omega)]
    exact ih h.2 (by omega)

theorem charMapInsert_spec (c : Nat) (tg : List Nat) (m : List (Nat × List Nat)) (lo : Nat)
    (h : CMFrom lo m) (hlo : lo ≤ c) :
    CMFrom lo (charMapInsert c tg m) ∧
    ∀ c', lookupChar (charMapInsert c tg m) c' =
      RangeMap.mergeOpt setUnion (lookupChar m c') (decide (c = c')) tg := by
  fun_induction charMapInsert c tg m generalizing lo with
  | case1 =>
    refine ⟨⟨hlo, trivial⟩, fun c' => ?_⟩
    by_cases hc : c' = c <;> simp [lookupChar, mergeOpt_ite, hc, eq_comm (a := c)]
  | case2 k v rest hA =>
    refine ⟨⟨hlo, Nat.succ_le_of_lt hA, h.2⟩, fun c' => ?_⟩
    by_cases hc : c' = c
    · subst hc
      simp [lookupChar, mergeOpt_ite, Nat.ne_of_gt hA, lookupChar_none_of_lt h.2 (Nat.lt_succ_of_lt hA)]
    · simp [lookupChar, mergeOpt_ite, hc, eq_comm (a := c)]
  | case3 v rest hA =>
    refine ⟨h, fun c' => ?_⟩
    by_cases hc : c' = c <;> simp [lookupChar, mergeOpt_ite, hc, eq_comm (a := c)]
  | case4 k v rest hA hB ih =>
    have ⟨ihw, ihl⟩ := ih (k + 1) h.2 (by omega)
    refine ⟨⟨h.1, ihw⟩, fun c' => ?_⟩
    simp only [lookupChar]
    split
    · next hc => simp [mergeOpt_ite, ← hc, hB]
    · exact ihl c'

theorem cm_le {lo : Nat} {m : List (Nat × List Nat)} (h : CMFrom lo m) : ∀ e ∈ m, lo ≤ e.1 := by
  induction m generalizing lo with
  | nil => intro e he; cases he
  | cons x rest ih =>
    obtain ⟨k, v⟩ := x
    intro e he
    rcases List.mem_cons.mp he with rfl | he
    · exact h.1
    · exact Nat.le_trans (Nat.le_succ_of_le h.1) (ih h.2 e he)

theorem lookupChar_of_mem {lo : Nat} {m : List (Nat × List Nat)} (h : CMFrom lo m) {e : Nat × List Nat}
    (he : e ∈ m) : lookupChar m e.1 = some e.2 := by
  induction m generalizing lo with
  | nil => cases he
  | cons x rest ih =>
    obtain ⟨k, v⟩ := x
    simp only [lookupChar]
    rcases List.mem_cons.mp he with rfl | he
    · simp
    · have := cm_le h.2 e he
      rw [if_neg (by omega)]
      exact ih h.2 he

theorem mem_of_lookupChar {τ : Type} {m : List (Nat × τ)} {c : Nat} {v : τ}
    (h : lookupChar m c = some v) : (c, v) ∈ m := by
  induction m with
  | nil => cases h
  | cons x rest ih =>
    obtain ⟨k, w⟩ := x
    simp only [lookupChar] at h
    by_cases hk : k = c
    · subst hk; simp only [if_true] at h; cases h; exact List.mem_cons_self
    · rw [if_neg hk] at h; exact List.mem_cons_of_mem _ (ih h)

def collectStep (nfa : NFA) (c : Collected) (s : Nat) : Collected :=
  let st := nfa.st s
  { accs := match st.acc with | some a => c.accs ++ [a] | none => c.accs
    chars := st.chars.foldl (fun m e => charMapInsert e.1 e.2 m) c.chars
    ranges := st.ranges.foldl (fun m r => RangeMap.insert setUnion m r.1 r.2.1 r.2.2) c.ranges
    any := setUnion c.any st.any
    eoi := setUnion c.eoi st.eoi }

theorem collect_eq (nfa : NFA) (S : List Nat) : collect nfa S = S.foldl (collectStep nfa) {} := rfl

/-- what `collect nfa S` has gathered: the accept entries of the members of `S` in order, and maps
whose domain and values at each point are the unions over the members (`collect_spec`) -/
structure ColSpec (nfa : NFA) (S : List Nat) (col : Collected) : Prop where
  accs : col.accs = S.filterMap (fun u => (nfa.st u).acc)
  cwf : CMFrom 0 col.chars
  csome : ∀ c, (lookupChar col.chars c).isSome = true ↔ ∃ s ∈ S, ∃ e ∈ (nfa.st s).chars, e.1 = c
  cmem : ∀ c t, optMem (lookupChar col.chars c) t ↔ ∃ s ∈ S, ∃ tg, (c, tg) ∈ (nfa.st s).chars ∧ t ∈ tg
  rwf : RangeMap.WF col.ranges
  rsome : ∀ c, (RangeMap.lookup col.ranges c).isSome = true ↔
    ∃ s ∈ S, ∃ r ∈ (nfa.st s).ranges, r.1 ≤ c ∧ c ≤ r.2.1
  rmem : ∀ c t, optMem (RangeMap.lookup col.ranges c) t ↔
    ∃ s ∈ S, ∃ r ∈ (nfa.st s).ranges, r.1 ≤ c ∧ c ≤ r.2.1 ∧ t ∈ r.2.2
  any : ∀ t, t ∈ col.any ↔ ∃ s ∈ S, t ∈ (nfa.st s).any
  eoi : ∀ t, t ∈ col.eoi ↔ ∃ s ∈ S, t ∈ (nfa.st s).eoi

theorem exists_snoc {S : List Nat} {s : Nat} {Q : Nat → Prop} :
    (∃ x ∈ S ++ [s], Q x) ↔ (∃ x ∈ S, Q x) ∨ Q s := by
  simp only [List.mem_append, List.mem_singleton, or_and_right, exists_or, exists_eq_left]

theorem colSpec_nil (nfa : NFA) : ColSpec nfa [] {} :=
  have hS : ∀ {Q : Nat → Prop}, ¬ ∃ s ∈ ([] : List Nat), Q s := fun ⟨_, h, _⟩ => nomatch h
  ⟨rfl, trivial, fun _ => iff_of_false Bool.false_ne_true hS, fun _ t => iff_of_false (optMem_none t) hS,
    trivial, fun _ => iff_of_false Bool.false_ne_true hS, fun _ t => iff_of_false (optMem_none t) hS,
    fun _ => iff_of_false List.not_mem_nil hS, fun _ => iff_of_false List.not_mem_nil hS⟩

theorem colSpec_step {nfa : NFA} (hwf : NFAWF nfa) {S : List Nat} {col : Collected} (h : ColSpec nfa S col)
    (s : Nat) : ColSpec nfa (S ++ [s]) (collectStep nfa col s) := by
  obtain ⟨c1, c2, c3⟩ := mergeFold_spec lookupChar (fun m e => charMapInsert e.1 e.2 m)
    (fun e c => e.1 = c) (·.2) (CMFrom 0) (nfa.st s).chars
    (fun m hm e _ => charMapInsert_spec e.1 e.2 m 0 hm (Nat.zero_le _)) col.chars h.cwf
  obtain ⟨r1, r2, r3⟩ := mergeFold_spec RangeMap.lookup
    (fun m r => RangeMap.insert setUnion m r.1 r.2.1 r.2.2) (fun r c => r.1 ≤ c ∧ c ≤ r.2.1)
    (·.2.2) RangeMap.WF (nfa.st s).ranges
    (fun m hm r hr => RangeMap.insert_spec setUnion m r.1 r.2.1 r.2.2 hm (RangeMap.WFFrom.mem (ranges_wf_all hwf s) hr).2)
    col.ranges h.rwf
  constructor
  · show (match (nfa.st s).acc with | some a => col.accs ++ [a] | none => col.accs) = _
    rw [List.filterMap_append, h.accs]
    cases hacc : (nfa.st s).acc <;> simp only [List.filterMap_cons, List.filterMap_nil, hacc, List.append_nil]
  · exact c1
  · intro c
    rw [exists_snoc, ← h.csome]
    exact c2 c
  · intro c t
    rw [exists_snoc, ← h.cmem]
    exact (c3 c t).trans (or_congr_right ⟨fun ⟨e, he, hc, ht⟩ => ⟨e.2, hc ▸ he, ht⟩,
      fun ⟨tg, he, ht⟩ => ⟨(c, tg), he, rfl, ht⟩⟩)
  · exact r1
  · intro c
    rw [exists_snoc, ← h.rsome]
    exact r2 c
  · intro c t
    rw [exists_snoc, ← h.rmem]
    exact (r3 c t).trans (or_congr_right (exists_congr fun r => and_congr_right fun _ => and_assoc))
  · intro t
    show t ∈ setUnion col.any (nfa.st s).any ↔ _
    rw [mem_setUnion, h.any, exists_snoc]
  · intro t
    show t ∈ setUnion col.eoi (nfa.st s).eoi ↔ _
    rw [mem_setUnion, h.eoi, exists_snoc]

theorem collect_spec {nfa : NFA} (hwf : NFAWF nfa) (S : List Nat) : ColSpec nfa S (collect nfa S) := by
  rw [collect_eq]
  exact foldl_inv (collectStep nfa) (fun c l => ColSpec nfa l c) S {} (colSpec_nil nfa)
    (fun b l a _ hb => colSpec_step hwf hb a)

section
variable {nfa : NFA} {S : List Nat} {col : Collected}

theorem ColSpec.mem_chars (h : ColSpec nfa S col)
    {e : Nat × List Nat} (he : e ∈ col.chars) (t : Nat) :
    t ∈ e.2 ↔ ∃ s ∈ S, ∃ tg, (e.1, tg) ∈ (nfa.st s).chars ∧ t ∈ tg := by
  rw [← h.cmem, lookupChar_of_mem h.cwf he, optMem_some]

theorem ColSpec.key_chars (h : ColSpec nfa S col)
    {e : Nat × List Nat} (he : e ∈ col.chars) : ∃ s ∈ S, ∃ e' ∈ (nfa.st s).chars, e'.1 = e.1 := by
  rw [← h.csome, lookupChar_of_mem h.cwf he]; rfl

theorem ColSpec.lookup_start (h : ColSpec nfa S col)
    {r : Nat × Nat × List Nat} (hr : r ∈ col.ranges) : RangeMap.lookup col.ranges r.1 = some r.2.2 :=
  (RangeMap.lookup_eq_some_iff h.rwf).mpr ⟨r, hr, Nat.le_refl _, (RangeMap.WFFrom.mem h.rwf hr).2, rfl⟩

theorem ColSpec.mem_ranges (h : ColSpec nfa S col)
    {r : Nat × Nat × List Nat} (hr : r ∈ col.ranges) (t : Nat) :
    t ∈ r.2.2 ↔ ∃ s ∈ S, ∃ r' ∈ (nfa.st s).ranges, r'.1 ≤ r.1 ∧ r.1 ≤ r'.2.1 ∧ t ∈ r'.2.2 := by
  rw [← h.rmem, h.lookup_start hr, optMem_some]

theorem ColSpec.key_ranges (h : ColSpec nfa S col)
    {r : Nat × Nat × List Nat} (hr : r ∈ col.ranges) :
    ∃ s ∈ S, ∃ r' ∈ (nfa.st s).ranges, r'.1 ≤ r.1 ∧ r.1 ≤ r'.2.1 := by
  rw [← h.rsome, h.lookup_start hr]; rfl

theorem nil_iff_forall_nil {α β : Type} {l : List α} {S : List Nat} {f : Nat → List β}
    (h1 : ∀ a ∈ l, ∃ s ∈ S, f s ≠ []) (h2 : ∀ s ∈ S, ∀ b ∈ f s, l ≠ []) : l = [] ↔ ∀ s ∈ S, f s = [] := by
  constructor
  · exact fun hl s hs => List.eq_nil_iff_forall_not_mem.mpr fun b hb => h2 s hs b hb hl
  · intro h
    refine List.eq_nil_iff_forall_not_mem.mpr fun a ha => ?_
    obtain ⟨s, hs, hne⟩ := h1 a ha
    exact hne (h s hs)

theorem ColSpec.chars_nil (hcs : ColSpec nfa S col) :
    col.chars = [] ↔ ∀ s ∈ S, (nfa.st s).chars = [] := by
  refine nil_iff_forall_nil (fun e he => ?_) (fun s hs e he hnil => ?_)
  · obtain ⟨s, hs, e', he', _⟩ := hcs.key_chars he
    exact ⟨s, hs, List.ne_nil_of_mem he'⟩
  · have := (hcs.csome e.1).mpr ⟨s, hs, e, he, rfl⟩
    rw [hnil] at this; cases this

theorem ColSpec.ranges_nil (hwf : NFAWF nfa) (hcs : ColSpec nfa S col) : col.ranges = [] ↔ ∀ s ∈ S, (nfa.st s).ranges = [] := by
  refine nil_iff_forall_nil (fun r hr => ?_) (fun s hs r hr hnil => ?_)
  · obtain ⟨s, hs, r', hr', _⟩ := hcs.key_ranges hr
    exact ⟨s, hs, List.ne_nil_of_mem hr'⟩
  · have := (hcs.rsome r.1).mpr ⟨s, hs, r, hr, Nat.le_refl _, (RangeMap.WFFrom.mem (ranges_wf_all hwf s) hr).2⟩
    rw [hnil] at this; cases this

theorem ColSpec.any_nil (hcs : ColSpec nfa S col) :
    col.any = [] ↔ ∀ s ∈ S, (nfa.st s).any = [] :=
  nil_iff_forall_nil (fun t ht => (hcs.any t).mp ht |>.imp fun _ h => ⟨h.1, List.ne_nil_of_mem h.2⟩)
    (fun s hs t ht => List.ne_nil_of_mem ((hcs.any t).mpr ⟨s, hs, ht⟩))

theorem ColSpec.eoi_nil (hcs : ColSpec nfa S col) :
    col.eoi = [] ↔ ∀ s ∈ S, (nfa.st s).eoi = [] :=
  nil_iff_forall_nil (fun t ht => (hcs.eoi t).mp ht |>.imp fun _ h => ⟨h.1, List.ne_nil_of_mem h.2⟩)
    (fun s hs t ht => List.ne_nil_of_mem ((hcs.eoi t).mpr ⟨s, hs, ht⟩))

theorem col_chars_ne (hne : TargetsNonempty nfa) (h : ColSpec nfa S col) : ∀ e ∈ col.chars, e.2 ≠ [] := by
  intro e he
  obtain ⟨s, hs, e', he', hk⟩ := h.key_chars he
  obtain ⟨t, ht⟩ := List.exists_mem_of_ne_nil _ ((targetsNonempty_all hne s).1 e' he')
  exact List.ne_nil_of_mem ((h.mem_chars he t).mpr ⟨s, hs, e'.2, hk ▸ he', ht⟩)

theorem col_ranges_ne (hne : TargetsNonempty nfa) (h : ColSpec nfa S col) : ∀ r ∈ col.ranges, r.2.2 ≠ [] := by
  intro r hr
  obtain ⟨s, hs, r', hr', hk⟩ := h.key_ranges hr
  obtain ⟨t, ht⟩ := List.exists_mem_of_ne_nil _ ((targetsNonempty_all hne s).2 r' hr')
  exact List.ne_nil_of_mem ((h.mem_ranges hr t).mpr ⟨s, hs, r', hr', hk.1, hk.2, ht⟩)

end

end Lexgen.Subset
