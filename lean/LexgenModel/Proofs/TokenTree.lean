import LexgenModel.Model.ParserDef
/-!
# Token trees

`Groups P ts`: the flat token list `ts` is a sequence of token trees — plain tokens and delimited
groups whose content is again such a sequence — and the content of every parenthesised group
satisfies `P`. `balanced`, `splitClose` and `cleanGroups` are three traversals of that structure;
each is characterised here, once, on `Groups`.
-/
namespace Lexgen

inductive Matching : DTok → DTok → Prop
  | paren : Matching (.re .lparen) (.re .rparen)
  | bracket : Matching (.re .lbracket) (.re .rbracket)
  | brace : Matching .lbrace .rbrace

inductive Groups (P : List DTok → Prop) : List DTok → Prop
  | nil : Groups P []
  | tok {t a} : t.isOpen = false → t.isClose = false → Groups P a → Groups P (t :: a)
  | group {o c a b} : Matching o c → (o = .re .lparen → P a) → Groups P a → Groups P b →
      Groups P (o :: (a ++ c :: b))

theorem delimStep_plain {t : DTok} (h1 : t.isOpen = false) (h2 : t.isClose = false) (stk : List Delim) :
    delimStep stk t = some stk := by
  cases t with
  | re u => cases u <;> first | rfl | exact absurd h1 (by decide) | exact absurd h2 (by decide)
  | _ => first | rfl | exact absurd h1 (by decide) | exact absurd h2 (by decide)

def NoJunk (a : List DTok) : Prop := ∀ r junk, parseRegexD a = some (r, junk) → junk = []

def Stable (ts : List DTok) : Prop := ∀ fuel, ts.length ≤ fuel → cleanGroups fuel ts = (ts, false)

theorem stable_nil : Stable [] := by
  intro fuel _
  cases fuel <;> rfl

theorem stable_cons {t : DTok} {a : List DTok} (ht : t ≠ .re .lparen) (ha : Stable a) : Stable (t :: a) := by
  intro fuel hf
  obtain ⟨f, rfl⟩ := Nat.exists_eq_add_one_of_ne_zero (Nat.ne_zero_of_lt hf)
  rw [cleanGroups.eq_4 _ _ _ ht, ha f (Nat.le_of_succ_le_succ hf)]

namespace Groups
variable {P : List DTok → Prop} {a b : List DTok}

theorem append (ha : Groups P a) (hb : Groups P b) : Groups P (a ++ b) := by
  induction ha with
  | nil => exact hb
  | tok h1 h2 _ ih => exact .tok h1 h2 ih
  | group hm hp ha1 _ _ ih =>
    rw [List.cons_append, List.append_assoc, List.cons_append]
    exact .group hm hp ha1 ih

/-- plain tokens in front; on a list of known shape the hypothesis holds by `rfl` -/
theorem toks (l : List DTok) (hl : l.all (fun t => !t.isOpen && !t.isClose) = true) (ha : Groups P a) :
    Groups P (l ++ a) := by
  induction l with
  | nil => exact ha
  | cons t l ih =>
    simp only [List.all_cons, Bool.and_eq_true, Bool.not_eq_true'] at hl
    exact .tok hl.1.1 hl.1.2 (ih hl.2)

theorem plain (l : List DTok) (hl : l.all (fun t => !t.isOpen && !t.isClose) = true) : Groups P l :=
  l.append_nil ▸ toks l hl .nil

theorem balanced_append (h : Groups P a) (stk : List Delim) (rest : List DTok) :
    balanced stk (a ++ rest) = balanced stk rest := by
  induction h generalizing stk rest with
  | nil => rfl
  | tok h1 h2 _ ih => rw [List.cons_append, balanced, delimStep_plain h1 h2]; exact ih stk rest
  | group hm _ _ _ iha ihb =>
    rw [List.cons_append, List.append_assoc, List.cons_append]
    cases hm <;> simp only [balanced, delimStep, iha, ihb]

/-- `splitClose` walks through the trees at whatever depth it is -/
theorem splitClose_append (h : Groups P a) (d : Nat) (rest : List DTok) :
    splitClose d (a ++ rest) = (a ++ (splitClose d rest).1, (splitClose d rest).2) := by
  induction h generalizing d rest with
  | nil => rfl
  | tok h1 h2 _ ih => simp [splitClose, h1, h2, ih]
  | group hm _ _ _ iha ihb => cases hm <;> simp [splitClose, DTok.isOpen, DTok.isClose, iha, ihb]

theorem stable_paren (ha : Groups NoJunk a) (hn : NoJunk a) (hs : Stable a) {rest : List DTok}
    (hr : Stable rest) : Stable (.re .lparen :: (a ++ .re .rparen :: rest)) := by
  intro fuel hf
  obtain ⟨f, rfl⟩ := Nat.exists_eq_add_one_of_ne_zero (Nat.ne_zero_of_lt hf)
  rw [List.length_cons, List.length_append, List.length_cons] at hf
  have hf := Nat.le_of_succ_le_succ hf
  have hsplit : splitClose 0 (a ++ .re .rparen :: rest) = (a, rest) :=
    (ha.splitClose_append 0 _).trans (congrArg (·, rest) (List.append_nil a))
  have h1 := hs f (Nat.le_trans (Nat.le_add_right _ _) hf)
  have h2 := hr f (Nat.le_trans (Nat.le_trans (Nat.le_succ _) (Nat.le_add_left _ _)) hf)
  rw [cleanGroups.eq_3, hsplit]
  simp only [h1, h2]
  cases hpr : parseRegexD a with
  | none => rfl
  | some p =>
    obtain ⟨r, junk⟩ := p
    obtain rfl := hn r junk hpr
    simp only [List.length_nil, Nat.sub_zero, List.take_length]
    rfl

/-- no parenthesised group of the trees has unconsumed content, so `cleanGroups` changes nothing -/
theorem stable_append (h : Groups NoJunk a) {rest : List DTok} (hr : Stable rest) : Stable (a ++ rest) := by
  induction h generalizing rest with
  | nil => exact hr
  | tok h1 _ _ ih => exact stable_cons (by rintro rfl; cases h1) (ih hr)
  | group hm hp ha _ iha ihb =>
    rw [List.cons_append, List.append_assoc, List.cons_append]
    cases hm with
    | paren => exact stable_paren ha (hp rfl) (by simpa using iha stable_nil) (ihb hr)
    | bracket | brace => exact stable_cons nofun (iha (stable_cons nofun (ihb hr)))

theorem balanced (h : Groups P a) : Lexgen.balanced [] a = true := by
  have := h.balanced_append [] []
  rwa [List.append_nil] at this

theorem cleanGroups (h : Groups NoJunk a) : Lexgen.cleanGroups a.length a = (a, false) := by
  have := h.stable_append stable_nil
  rw [List.append_nil] at this
  exact this _ (Nat.le_refl _)

end Groups
end Lexgen
