import LexgenModel.Proofs.AcceptRenaming
import LexgenModel.Proofs.Glue
import LexgenModel.Proofs.SubsetTable
/-!
# The numbering of semantic actions is irrelevant

The accept values of the automata are indices into the semantic-action table. Nothing in the pipeline looks at them: renaming the action indices of
the rules of a definition by ANY function `f` (injective or not) renames the accept values of every automaton the model of `lexer()` builds and
changes nothing else, errors included (`compileLexer_mapV`); the generated `next()` only uses an accept value to pick the action to call and to
remember it in `last_match` (`next_mapV`). Hence rules whose actions are equal may share one table entry, and the entries may be numbered in any
order (`action_numbering_irrelevant`): this justifies comparing the implementation's action indices with the model's only up to renaming
(`harness/corpus.py`, `canon_actions`).

**The run-time statements need a hypothesis on the actions.** The model hands every action a `View` that records, in its field `action`, the index
under which the action is called, and a model `Action` is an arbitrary function of its view: it can observe its own table index, and with
`acts' (f k) = acts k` alone the renamed lexer may behave differently (`example`s at the end of the file). A Rust semantic action cannot do that —
the handle it receives does not expose the index — and no other part of the model reads the field. The hypothesis is `Action.IndexBlind`; the
weakest sufficient form is `ActsAgree f acts acts'` (`action_numbering_irrelevant_gen`). No injectivity of `f` is needed: no stage compares, sorts or
deduplicates accept values (the only tests on accept lists are emptiness tests).

Run time is the case `Acc.map f id` of the simulation of `AcceptRenaming`. In the pipeline every stage `S` satisfies
`S (x.mapV f) = (S x).map (·.mapV f)`, lifted through `bind`, `foldlM`, `mapM` by `except_bind_mapV`, `foldlM_hom`, `mapM_hom`.
-/
namespace Lexgen
variable {σ τ ε : Type}

def Acc.mapV (f : Nat → Nat) (a : Acc) : Acc := { a with value := f a.value }

def Trans.mapV (f : Nat → Nat) : Trans → Trans
  | .goto s => .goto s
  | .accept accs => .accept (accs.map (Acc.mapV f))

def DState.mapVNat (f : Nat → Nat) (s : DState Nat) : DState Nat := { s with accepting := s.accepting.map (Acc.mapV f) }

def DState.mapVTrans (f : Nat → Nat) (s : DState Trans) : DState Trans :=
  { s with accepting := s.accepting.map (Acc.mapV f),
           chars := s.chars.map fun p => (p.1, p.2.mapV f),
           ranges := s.ranges.map fun r => (r.1, r.2.1, r.2.2.mapV f),
           any := s.any.map (Trans.mapV f),
           eoi := s.eoi.map (Trans.mapV f) }

def RuleOrBinding.mapRhs (f : Nat → Nat) : RuleOrBinding → RuleOrBinding
  | .binding x re => .binding x re
  | .rule r => .rule { r with rhs := f r.rhs }

def TopItem.mapRhs (f : Nat → Nat) : TopItem → TopItem
  | .errorType => .errorType
  | .rb x => .rb (x.mapRhs f)
  | .ruleSet name rules => .ruleSet name (rules.map (RuleOrBinding.mapRhs f))

def mapRhs (f : Nat → Nat) (items : LexerDef) : LexerDef := items.map (TopItem.mapRhs f)

def Compiled.mapV (f : Nat → Nat) (c : Compiled) : Compiled :=
  { c with full := c.full.map (DState.mapVNat f), dfa := c.dfa.map (DState.mapVTrans f) }

theorem Acc.mapV_eq (f : Nat → Nat) : Acc.mapV f = Acc.map f id := by
  funext a
  obtain ⟨v, c⟩ := a
  cases c <;> rfl

theorem Trans.mapV_eq (f : Nat → Nat) : Trans.mapV f = Trans.mapA (Acc.map f id) := by
  funext t
  cases t <;> simp only [Trans.mapV, Trans.mapA, Acc.mapV_eq]

theorem DState.mapVTrans_eq (f : Nat → Nat) : DState.mapVTrans f = DState.mapA (Acc.map f id) := by
  funext s
  simp only [DState.mapVTrans, DState.mapA, RangeMap.mapVals, Trans.mapV_eq, Acc.mapV_eq]

theorem inlinedStates_mapV (f : Nat → Nat) (d : DFA Trans) :
    inlinedStates (d.map (DState.mapVTrans f)) = inlinedStates d := by
  rw [DState.mapVTrans_eq, inlinedStates_mapA]

theorem st_mapVNat (f : Nat → Nat) (d : DFA Nat) (s : Nat) :
    DFA.st (d.map (DState.mapVNat f)) s = DState.mapVNat f (DFA.st d s) :=
  DFA.st_map _ rfl d s

theorem Compiled.renamed_mapV (f : Nat → Nat) (c : Compiled) (acts acts' : Nat → Action σ τ ε) (h : ActsAgree f acts acts')
    (width : Nat → Nat) (input : Option (List Nat)) :
    Renamed f id (c.config acts width input) ((c.mapV f).config acts' width input) where
  dfa := congrArg (fun F => c.dfa.map F) (DState.mapVTrans_eq f)
  entries := rfl
  inl := inlinedStates_mapV f c.dfa
  width := rfl
  input := rfl
  same := fun _ _ => rfl
  acts := h


section
variable (f : Nat → Nat)

def NState.mapV (f : Nat → Nat) (s : NState) : NState := { s with acc := s.acc.map (Acc.mapV f) }

def NFA.mapV (f : Nat → Nat) (n : NFA) : NFA := n.map (NState.mapV f)

theorem modify_map_comm {α β : Type} (g : α → β) (h : α → α) (h' : β → β) (hc : ∀ x, h' (g x) = g (h x)) (l : List α) (i : Nat) :
    (l.map g).modify i h' = (l.modify i h).map g := by
  apply List.ext_getElem?
  intro j
  simp only [List.getElem?_modify, List.getElem?_map]
  cases l[j]? with
  | none => rfl
  | some x =>
    simp only [Option.map_some, Option.map_eq_map]
    split
    · rw [hc]
    · rfl

theorem NFA.length_mapV (n : NFA) : (NFA.mapV f n).length = n.length := by
  unfold NFA.mapV; exact List.length_map _

theorem NFA.st_mapV (n : NFA) (i : Nat) : (NFA.mapV f n).st i = NState.mapV f (n.st i) := by
  unfold NFA.st NFA.mapV
  exact getD_map_of_empty _ _ _ _ _ rfl

/-- the shape of the `add_*_transition` functions: state `s` is updated unless a test on it fails; neither looks at accept values -/
theorem NFA.guard_modify_mapV (n : NFA) (s : Nat) (p : NState → Bool) (e : CompileError) (h h' : NState → NState)
    (hp : ∀ x, p (NState.mapV f x) = p x) (hh : ∀ x, h' (NState.mapV f x) = NState.mapV f (h x)) :
    (if p ((NFA.mapV f n).st s) then Except.error e else .ok ((NFA.mapV f n).modify s h')) =
      (if p (n.st s) then Except.error e else .ok (n.modify s h)).map (NFA.mapV f) := by
  rw [NFA.st_mapV, hp, NFA.mapV, modify_map_comm _ h h' hh]
  split <;> rfl

theorem NFA.modify_mapV (n : NFA) (s : Nat) (h : NState → NState) (hc : ∀ x, h (NState.mapV f x) = NState.mapV f (h x)) :
    (NFA.mapV f n).modify s h = NFA.mapV f (n.modify s h) :=
  modify_map_comm _ _ _ hc _ _

theorem NFA.newState_mapV (n : NFA) : (NFA.mapV f n).newState = (NFA.mapV f n.newState.1, n.newState.2) := by
  unfold NFA.newState
  simp only [NFA.length_mapV]
  unfold NFA.mapV
  simp only [List.map_append, List.map_cons, List.map_nil]
  rfl

theorem NFA.addCharTransition_mapV (n : NFA) (s c next : Nat) :
    (NFA.mapV f n).addCharTransition s c next = (n.addCharTransition s c next).map (NFA.mapV f) := by
  unfold NFA.addCharTransition
  simp only [NFA.st_mapV, show (NState.mapV f (n.st s)).chars = (n.st s).chars from rfl]
  cases List.find? (fun e => decide (e.1 = c)) (n.st s).chars with
  | none => exact congrArg Except.ok (NFA.modify_mapV f n s _ (fun x => rfl))
  | some p => exact NFA.guard_modify_mapV f n s (fun _ => p.2.contains next) _ _ _ (fun _ => rfl) (fun _ => rfl)

theorem NFA.addRangeTransition_mapV (n : NFA) (s rs re next : Nat) :
    (NFA.mapV f n).addRangeTransition s rs re next = NFA.mapV f (n.addRangeTransition s rs re next) :=
  NFA.modify_mapV f n s _ (fun _ => rfl)

theorem NFA.addRangeTransitions_mapV (n : NFA) (s : Nat) (ranges : RangeMap Unit) (next : Nat) :
    (NFA.mapV f n).addRangeTransitions s ranges next = NFA.mapV f (n.addRangeTransitions s ranges next) :=
  NFA.modify_mapV f n s _ (fun _ => rfl)

theorem NFA.addEmptyTransition_mapV (n : NFA) (s next : Nat) :
    (NFA.mapV f n).addEmptyTransition s next = (n.addEmptyTransition s next).map (NFA.mapV f) :=
  NFA.guard_modify_mapV f n s (fun x => x.eps.contains next) _ _ _ (fun _ => rfl) (fun _ => rfl)

theorem NFA.addAnyTransition_mapV (n : NFA) (s next : Nat) :
    (NFA.mapV f n).addAnyTransition s next = (n.addAnyTransition s next).map (NFA.mapV f) :=
  NFA.guard_modify_mapV f n s (fun x => x.any.contains next) _ _ _ (fun _ => rfl) (fun _ => rfl)

theorem NFA.addEoiTransition_mapV (n : NFA) (s next : Nat) :
    (NFA.mapV f n).addEoiTransition s next = (n.addEoiTransition s next).map (NFA.mapV f) :=
  NFA.guard_modify_mapV f n s (fun x => x.eoi.contains next) _ _ _ (fun _ => rfl) (fun _ => rfl)

theorem NFA.makeStateAccepting_mapV (n : NFA) (s : Nat) (a : Acc) :
    (NFA.mapV f n).makeStateAccepting s (Acc.mapV f a) = (n.makeStateAccepting s a).map (NFA.mapV f) :=
  NFA.guard_modify_mapV f n s (fun x => x.acc.isSome) _ (fun st => { st with acc := some a }) _
    (fun _ => Option.isSome_map ..) (fun _ => rfl)

theorem except_bind_mapV {α α' β β' : Type} {e : Type} (g : α → α') (g' : β → β') (x : Except e α) (x' : Except e α')
    (k : α → Except e β) (k' : α' → Except e β')
    (hx : x' = x.map g) (hk : ∀ a, k' (g a) = (k a).map g') :
    (x' >>= k') = (x >>= k).map g' := by
  subst hx
  cases x with
  | error err => rfl
  | ok a => exact hk a

/-! The same as a pair of rewrite rules: with the lemmas `S (mapV f x) = (S x).map (mapV f)` of the steps of a `do` block they push the map
out of the left side and into the right side, until both sides are the same chain of binds. -/

theorem except_map_bind {e α α' β : Type} (g : α → α') (x : Except e α) (k : α' → Except e β) :
    (x.map g >>= k) = x >>= fun a => k (g a) := by cases x <;> rfl

theorem except_bind_map {e α β β' : Type} (g : β → β') (x : Except e α) (k : α → Except e β) :
    (x >>= k).map g = x >>= fun a => (k a).map g := by cases x <;> rfl

theorem NFA.addStr_mapV (cs : List Nat) : ∀ (cur cont : Nat) (n : NFA),
    NFA.addStr cs cur cont (NFA.mapV f n) = (NFA.addStr cs cur cont n).map (NFA.mapV f) := by
  induction cs with
  | nil => intro cur cont n; rfl
  | cons c rest ih =>
    intro cur cont n
    cases rest with
    | nil => exact NFA.addCharTransition_mapV f n cur c cont
    | cons c' cs => simp only [NFA.addStr, NFA.newState_mapV, NFA.addCharTransition_mapV, ih, except_map_bind, except_bind_map]

theorem NFA.addSet_mapV (items : List CharOrRange) : ∀ (seen : List Nat) (cur cont : Nat) (n : NFA),
    NFA.addSet items seen cur cont (NFA.mapV f n) = (NFA.addSet items seen cur cont n).map (NFA.mapV f) := by
  induction items with
  | nil => intro seen cur cont n; rfl
  | cons it rest ih =>
    intro seen cur cont n
    cases it with
    | chr c =>
      simp only [NFA.addSet]
      split
      · exact ih _ _ _ _
      · simp only [NFA.addCharTransition_mapV, ih, except_map_bind, except_bind_map]
    | rng s e => simp only [NFA.addSet, NFA.addRangeTransition_mapV, ih]

theorem NFA.addRe_mapV (re : Regex) : ∀ (cur cont : Nat) (n : NFA),
    NFA.addRe re cur cont (NFA.mapV f n) = (NFA.addRe re cur cont n).map (NFA.mapV f) := by
  induction re with
  | builtin name =>
    intro cur cont n
    simp only [NFA.addRe]
    cases builtinRanges name with
    | none => rfl
    | some rs => simp only [NFA.addRangeTransitions_mapV]; rfl
  | var name => intro cur cont n; rfl
  | chr c => intro cur cont n; exact NFA.addCharTransition_mapV f n cur c cont
  | str cs => intro cur cont n; exact NFA.addStr_mapV f cs cur cont n
  | set items => intro cur cont n; exact NFA.addSet_mapV f items [] cur cont n
  | star r ih | plus r ih | opt r ih =>
    intro cur cont n
    simp only [NFA.addRe, NFA.newState_mapV, ih, NFA.addEmptyTransition_mapV, except_map_bind, except_bind_map]
  | cat a b iha ihb | alt a b iha ihb =>
    intro cur cont n
    simp only [NFA.addRe, NFA.newState_mapV, iha, ihb, NFA.addEmptyTransition_mapV, except_map_bind, except_bind_map]
  | any => intro cur cont n; exact NFA.addAnyTransition_mapV f n cur cont
  | eoi => intro cur cont n; exact NFA.addEoiTransition_mapV f n cur cont
  | diff a b _ _ =>
    intro cur cont n
    simp only [NFA.addRe]
    cases regexToRangeMap (.diff a b) with
    | error e => rfl
    | ok m =>
      show Except.ok _ = Except.map _ (Except.ok _)
      rw [NFA.addRangeTransitions_mapV]
      rfl

theorem NFA.addRegex_mapV (n : NFA) (re : Regex) (ctx : Option Nat) (value : Nat) :
    (NFA.mapV f n).addRegex re ctx (f value) = (n.addRegex re ctx value).map (NFA.mapV f) := by
  have hacc : ({ value := f value, ctx := ctx } : Acc) = Acc.mapV f { value := value, ctx := ctx } := rfl
  simp only [NFA.addRegex, hacc, NFA.newState_mapV, NFA.makeStateAccepting_mapV, NFA.addEmptyTransition_mapV, NFA.addRe_mapV,
    except_map_bind, except_bind_map]


def Builder.mapV (f : Nat → Nat) (b : Builder) : Builder := { b with dfa := b.dfa.map (DState.mapVNat f) }

def Collected.mapV (f : Nat → Nat) (c : Collected) : Collected := { c with accs := c.accs.map (Acc.mapV f) }

theorem closureAux_mapV (n : NFA) (fuel : Nat) : ∀ wl cl, NFA.closureAux (NFA.mapV f n) fuel wl cl = NFA.closureAux n fuel wl cl := by
  induction fuel with
  | zero => intro wl cl; rfl
  | succ fuel ih =>
    intro wl cl
    cases wl with
    | nil => rfl
    | cons w wl =>
      simp only [NFA.closureAux, NFA.st_mapV]
      exact ih _ _

theorem closure_mapV (n : NFA) (states : List Nat) : NFA.closure (NFA.mapV f n) states = NFA.closure n states := by
  unfold NFA.closure
  rw [NFA.length_mapV, closureAux_mapV]

theorem collect_mapV (n : NFA) (states : List Nat) : collect (NFA.mapV f n) states = (collect n states).mapV f := by
  unfold collect
  refine List.foldl_hom (Collected.mapV f) (init := {}) ?_
  intro c s
  simp only [NFA.st_mapV]
  unfold Collected.mapV NState.mapV
  cases (n.st s).acc <;> simp only [Option.map_none, Option.map_some, List.map_append, List.map_cons, List.map_nil]

theorem stateOf_mapV (b : Builder) (set : List Nat) :
    (Builder.mapV f b).stateOf set = (Builder.mapV f (b.stateOf set).1, (b.stateOf set).2) := by
  unfold Builder.stateOf
  show (match b.stateMap.find? _ with | some (_, i) => _ | none => _) = _
  cases b.stateMap.find? (fun e => decide (e.1 = set)) with
  | some p => rfl
  | none =>
    simp only [Builder.mapV, List.length_map, List.map_append, List.map_cons, List.map_nil]
    rfl

theorem addPred_mapV (d : DFA Nat) (t p : Nat) :
    DFA.addPred (d.map (DState.mapVNat f)) t p = (DFA.addPred d t p).map (DState.mapVNat f) := by
  unfold DFA.addPred
  apply modify_map_comm
  intro x; rfl

theorem modify_mapVNat (d : DFA Nat) (i : Nat) (h : DState Nat → DState Nat) (hc : ∀ x, h (DState.mapVNat f x) = DState.mapVNat f (h x)) :
    (d.map (DState.mapVNat f)).modify i h = (d.modify i h).map (DState.mapVNat f) :=
  modify_map_comm _ _ _ hc _ _

theorem link_mapV (b : Builder) (d : Nat) (k : List Nat) (upd : Nat → DState Nat → DState Nat)
    (hu : ∀ t x, upd t (DState.mapVNat f x) = DState.mapVNat f (upd t x)) :
    Subset.link (b.mapV f) d k upd = (Subset.link b d k upd).mapV f := by
  unfold Subset.link
  rw [stateOf_mapV]
  simp only [Builder.mapV]
  rw [modify_mapVNat f _ _ _ (hu _), addPred_mapV]

theorem charStep_mapV (nfa : NFA) (col : Collected) (d : Nat) (acc : Builder × List (List Nat)) (e : Nat × List Nat) :
    Subset.charStep (NFA.mapV f nfa) (col.mapV f) d (acc.1.mapV f, acc.2) e =
      ((Subset.charStep nfa col d acc e).1.mapV f, (Subset.charStep nfa col d acc e).2) := by
  unfold Subset.charStep
  simp only [closure_mapV, show Subset.ctg (col.mapV f) e = Subset.ctg col e from rfl,
    link_mapV f _ _ _ (fun t st => { st with chars := st.chars ++ [(e.1, t)] }) (fun _ _ => rfl)]

theorem rangeStep_mapV (nfa : NFA) (col : Collected) (acc : Builder × List (List Nat) × RangeMap Nat) (r : Nat × Nat × List Nat) :
    Subset.rangeStep (NFA.mapV f nfa) (col.mapV f) (acc.1.mapV f, acc.2) r =
      ((Subset.rangeStep nfa col acc r).1.mapV f, (Subset.rangeStep nfa col acc r).2) := by
  unfold Subset.rangeStep
  simp only [closure_mapV, show (col.mapV f).any = col.any from rfl, stateOf_mapV]

theorem optStep_mapV (nfa : NFA) (d : Nat) (tg : List Nat) (upd : Nat → DState Nat → DState Nat)
    (hu : ∀ t x, upd t (DState.mapVNat f x) = DState.mapVNat f (upd t x)) (b : Builder) (p : List (List Nat)) :
    Subset.optStep (NFA.mapV f nfa) d tg upd (b.mapV f, p) =
      ((Subset.optStep nfa d tg upd (b, p)).1.mapV f, (Subset.optStep nfa d tg upd (b, p)).2) := by
  unfold Subset.optStep
  rw [closure_mapV]
  split
  · rfl
  · rw [link_mapV f _ _ _ _ hu]

theorem acceptStage_mapV (b : Builder) (d : Nat) (col : Collected) :
    Subset.acceptStage (b.mapV f) d (col.mapV f) = (Subset.acceptStage b d col).mapV f := by
  unfold Subset.acceptStage
  simp only [Builder.mapV, Collected.mapV]
  rw [modify_map_comm (DState.mapVNat f) (fun st => { st with accepting := col.accs }) _ (fun x => rfl)]

theorem charsStage_mapV (nfa : NFA) (col : Collected) (d : Nat) (b : Builder) :
    Subset.charsStage (NFA.mapV f nfa) (col.mapV f) d (b.mapV f) =
      ((Subset.charsStage nfa col d b).1.mapV f, (Subset.charsStage nfa col d b).2) :=
  List.foldl_hom (fun x : Builder × List (List Nat) => (x.1.mapV f, x.2)) (init := (b, [])) (charStep_mapV f nfa col d)

theorem rangesStage_mapV (nfa : NFA) (col : Collected) (b : Builder) (p : List (List Nat)) :
    Subset.rangesStage (NFA.mapV f nfa) (col.mapV f) (b.mapV f, p) =
      ((Subset.rangesStage nfa col (b, p)).1.mapV f, (Subset.rangesStage nfa col (b, p)).2) :=
  List.foldl_hom (fun x : Builder × List (List Nat) × RangeMap Nat => (x.1.mapV f, x.2)) (init := (b, p, [])) (rangeStep_mapV f nfa col)

theorem rangeTableStage_mapV (d : Nat) (b : Builder) (y : List (List Nat) × RangeMap Nat) :
    Subset.rangeTableStage d (b.mapV f, y) = (Subset.rangeTableStage d (b, y)).mapV f := by
  unfold Subset.rangeTableStage Subset.rangePreds
  simp only [Builder.mapV]
  rw [List.foldl_hom (List.map (DState.mapVNat f)) (fun a e => addPred_mapV f a e.2.2 d),
    modify_mapVNat f _ _ (fun st => { st with ranges := y.2 }) (fun x => rfl)]

theorem expandState_mapV (nfa : NFA) (b : Builder) (d : Nat) (cur : List Nat) :
    expandState (NFA.mapV f nfa) (b.mapV f) d cur = ((expandState nfa b d cur).1.mapV f, (expandState nfa b d cur).2) := by
  rw [Subset.expandState_eqC, Subset.expandState_eqC, collect_mapV]
  unfold Subset.expandC
  simp only [acceptStage_mapV, charsStage_mapV, rangesStage_mapV, rangeTableStage_mapV,
    optStep_mapV f nfa d _ (fun t st => { st with any := some t }) (fun t x => rfl),
    optStep_mapV f nfa d _ (fun t st => { st with eoi := some t }) (fun t x => rfl)]
  rfl

theorem nfaToDfaLoop_mapV (nfa : NFA) (fuel : Nat) : ∀ (wl : List (List Nat)) (finished : List Nat) (b : Builder),
    nfaToDfaLoop (NFA.mapV f nfa) fuel wl finished (b.mapV f) = (nfaToDfaLoop nfa fuel wl finished b).map (Builder.mapV f) := by
  induction fuel with
  | zero => intro wl finished b; cases wl <;> rfl
  | succ fuel ih =>
    intro wl finished b
    cases wl with
    | nil => rfl
    | cons cur wl =>
      simp only [nfaToDfaLoop, stateOf_mapV]
      split
      · exact ih _ _ _
      · rw [expandState_mapV]
        exact ih _ _ _

theorem transBound_mapV (nfa : NFA) : transBound (NFA.mapV f nfa) = transBound nfa := by
  unfold transBound NFA.mapV
  rw [List.foldl_map]
  rfl

theorem nfaToDfa_mapV (nfa : NFA) : nfaToDfa (NFA.mapV f nfa) = (nfaToDfa nfa).map (List.map (DState.mapVNat f)) := by
  unfold nfaToDfa
  simp only [closure_mapV]
  have hfuel : nfaToDfaFuel (NFA.mapV f nfa) = nfaToDfaFuel nfa := by
    unfold nfaToDfaFuel; rw [NFA.length_mapV, transBound_mapV]
  rw [hfuel]
  generalize hb0 : ({ dfa := [{ (DState.empty : DState Nat) with initial := true }], stateMap := [(nfa.closure [0], 0)] } : Builder) = b0
  have hb : b0 = Builder.mapV f b0 := by subst hb0; rfl
  conv => lhs; rw [hb, nfaToDfaLoop_mapV]
  cases nfaToDfaLoop nfa (nfaToDfaFuel nfa) [nfa.closure [0]] [] b0 <;> rfl


theorem foldlM_hom {α β γ e : Type} (G : α → γ) (step : α → β → Except e α) (step' : γ → β → Except e γ)
    (h : ∀ a x, step' (G a) x = (step a x).map G) (l : List β) :
    ∀ init : α, l.foldlM step' (G init) = (l.foldlM step init).map G := by
  induction l with
  | nil => intro init; rfl
  | cons x rest ih =>
    intro init
    simp only [List.foldlM_cons, h, ih, except_map_bind, except_bind_map]

theorem mapM_hom {α β γ e : Type} (g : β → γ) (F : α → Except e β) (F' : α → Except e γ) (h : ∀ i, F' i = (F i).map g) (l : List α) :
    l.mapM F' = (l.mapM F).map (List.map g) := by
  induction l with
  | nil => rfl
  | cons x rest ih =>
    simp only [List.mapM_cons, h, ih, except_map_bind, except_bind_map]
    rfl

theorem compileSingleRule_mapV (nfa : NFA) (r : SingleRule) (b : Bindings) (ctxs : List (DFA Nat)) :
    compileSingleRule (NFA.mapV f nfa) { r with rhs := f r.rhs } b ctxs =
      (compileSingleRule nfa r b ctxs).map fun p => (NFA.mapV f p.1, p.2) := by
  obtain ⟨re, ctx, rhs⟩ := r
  cases ctx <;>
  · simp only [Static.compileSingleRule_eq, NFA.addRegex_mapV, except_map_bind, except_bind_map]
    rfl

theorem rsStep_mapV (acc : NFA × Bindings × List (DFA Nat)) (item : RuleOrBinding) :
    Static.rsStep (NFA.mapV f acc.1, acc.2) (item.mapRhs f) = (Static.rsStep acc item).map fun x => (NFA.mapV f x.1, x.2) := by
  cases item with
  | binding name re =>
    rw [RuleOrBinding.mapRhs, Static.rsStep_binding, Static.rsStep_binding]
    split <;> rfl
  | rule r =>
    rw [RuleOrBinding.mapRhs, Static.rsStep_rule, Static.rsStep_rule]
    exact except_bind_mapV _ _ _ _ _ _ (compileSingleRule_mapV f acc.1 r acc.2.1 acc.2.2) (fun p => rfl)

theorem compileRuleSet_mapV (rules : List RuleOrBinding) (b : Bindings) (ctxs : List (DFA Nat)) :
    compileRuleSet (rules.map (RuleOrBinding.mapRhs f)) b ctxs =
      (compileRuleSet rules b ctxs).map fun p => (p.1.map (DState.mapVNat f), p.2) := by
  rw [Static.compileRuleSet_eq, Static.compileRuleSet_eq, List.foldlM_map]
  refine except_bind_mapV _ _ _ _ _ _
    (foldlM_hom (fun x : NFA × Bindings × List (DFA Nat) => (NFA.mapV f x.1, x.2)) Static.rsStep _ (rsStep_mapV f) rules (NFA.new, b, ctxs))
    (fun a => ?_)
  simp only [nfaToDfa_mapV]
  cases nfaToDfa a.1 <;> rfl

theorem addDfa_mapV (d other : DFA Nat) :
    addDfa (d.map (DState.mapVNat f)) (other.map (DState.mapVNat f)) =
      ((addDfa d other).1.map (DState.mapVNat f), (addDfa d other).2) := by
  unfold addDfa
  simp only [List.length_map, List.map_append, List.map_map]
  rfl

theorem succs_mapVNat (s : DState Nat) : DFA.succs (DState.mapVNat f s) = DFA.succs s := rfl

theorem accEmpty_mapVNat (s : DState Nat) : (DState.mapVNat f s).accepting.isEmpty = s.accepting.isEmpty :=
  List.isEmpty_map

theorem backtrackLoop_mapV (d : DFA Nat) (fuel : Nat) : ∀ (wl : List (Nat × Bool)) (vis : List (Option Bool)),
    backtrackLoop (d.map (DState.mapVNat f)) fuel wl vis = backtrackLoop d fuel wl vis := by
  induction fuel with
  | zero => intro wl vis; cases wl <;> rfl
  | succ fuel ih =>
    intro wl vis
    cases wl with
    | nil => rfl
    | cons p wl =>
      obtain ⟨s, bt⟩ := p
      simp only [backtrackLoop, st_mapVNat, succs_mapVNat, accEmpty_mapVNat, ih]

theorem edgeCount_mapV (d : DFA Nat) : edgeCount (d.map (DState.mapVNat f)) = edgeCount d := by
  unfold edgeCount
  rw [List.foldl_map]
  rfl

theorem initialWork_mapV (d : DFA Nat) : initialWork (d.map (DState.mapVNat f)) = initialWork d := by
  unfold initialWork
  simp only [List.length_map, st_mapVNat]
  rfl

theorem updateBacktracks_mapV (d : DFA Nat) :
    updateBacktracks (d.map (DState.mapVNat f)) = (updateBacktracks d).map (List.map (DState.mapVNat f)) := by
  unfold updateBacktracks backtrackFuel
  rw [backtrackLoop_mapV, edgeCount_mapV, initialWork_mapV, List.length_map]
  cases backtrackLoop d (2 * edgeCount d + d.length + 1) (initialWork d).reverse (List.replicate d.length none) with
  | none => rfl
  | some vis =>
    simp only []
    split
    · simp only [Option.map_some, List.zipWith_map_left, List.map_zipWith]
      rfl
    · rfl

theorem emptyStates_mapV (d : DFA Nat) : emptyStates (d.map (DState.mapVNat f)) = emptyStates d := by
  unfold emptyStates
  simp only [List.length_map, st_mapVNat]
  rfl

theorem mapTransition_mapV (d : DFA Nat) (empties : List Nat) (t : Nat) :
    mapTransition (d.map (DState.mapVNat f)) empties t = Trans.mapV f (mapTransition d empties t) := by
  unfold mapTransition
  split
  · rw [st_mapVNat]; rfl
  · rfl

/-- the renumbering of a predecessor in `simplifyState` -/
def predOf (d : DFA Nat) (empties : List Nat) (p : Nat) : Except CompileError Nat :=
  match mapTransition d empties p with
  | .goto p' => pure p'
  | .accept _ => throw (.internal "Predecessor of a state is removed in simplification")

theorem simplifyState_eq (d : DFA Nat) (empties : List Nat) (s : DState Nat) :
    simplifyState d empties s =
      (s.preds.mapM (predOf d empties) >>= fun preds =>
        pure { initial := s.initial
               chars := s.chars.map fun e => (e.1, mapTransition d empties e.2)
               ranges := RangeMap.mapVals (mapTransition d empties) s.ranges
               any := s.any.map (mapTransition d empties)
               eoi := s.eoi.map (mapTransition d empties)
               accepting := s.accepting
               preds := preds
               backtrack := s.backtrack }) := by
  rfl

theorem predOf_mapV (d : DFA Nat) (empties : List Nat) : predOf (d.map (DState.mapVNat f)) empties = predOf d empties := by
  funext p
  unfold predOf
  rw [mapTransition_mapV]
  cases mapTransition d empties p <;> rfl

theorem simplifyState_mapV (d : DFA Nat) (empties : List Nat) (s : DState Nat) :
    simplifyState (d.map (DState.mapVNat f)) empties (DState.mapVNat f s) =
      (simplifyState d empties s).map (DState.mapVTrans f) := by
  rw [simplifyState_eq, simplifyState_eq, predOf_mapV]
  have hpreds : (DState.mapVNat f s).preds = s.preds := rfl
  rw [hpreds]
  cases List.mapM (predOf d empties) s.preds with
  | error err => rfl
  | ok preds =>
    show Except.ok _ = Except.ok _
    congr 1
    have hm : mapTransition (d.map (DState.mapVNat f)) empties = fun t => Trans.mapV f (mapTransition d empties t) := by
      funext t; exact mapTransition_mapV f d empties t
    rw [hm]
    unfold DState.mapVTrans DState.mapVNat RangeMap.mapVals
    simp only [List.map_map, Option.map_map, Function.comp_def]

theorem simplify_mapV (d : DFA Nat) (entries : List (String × Nat)) :
    simplify (d.map (DState.mapVNat f)) entries =
      (simplify d entries).map fun p => (p.1.map (DState.mapVTrans f), p.2) := by
  unfold simplify
  simp only [emptyStates_mapV, List.length_map, st_mapVNat]
  have h := mapM_hom (DState.mapVTrans f) (fun i => simplifyState d (emptyStates d) (d.st i))
    (fun i => simplifyState (d.map (DState.mapVNat f)) (emptyStates d) (DState.mapVNat f (d.st i)))
    (fun i => simplifyState_mapV f d (emptyStates d) (d.st i))
    ((List.range d.length).filter fun i => !(emptyStates d).contains i)
  refine except_bind_mapV _ _ _ _ _ _ h (fun a => ?_)
  rfl


def GlueState.mapV (f : Nat → Nat) (g : GlueState) : GlueState :=
  { g with initDfa := g.initDfa.map (List.map (DState.mapVNat f)), unnamed := NFA.mapV f g.unnamed }

theorem mixedRules_mapRhs (items : LexerDef) : mixedRules (mapRhs f items) = mixedRules items := by
  unfold mixedRules mapRhs
  simp only [List.any_map]
  congr 2 <;>
  · funext x
    rcases x with _ | (_ | _) | _ <;> rfl

theorem lexRS_mapV (g : GlueState) (name : String) (rules : List RuleOrBinding) :
    Static.lexRS (g.mapV f) name (rules.map (RuleOrBinding.mapRhs f)) =
      (Static.lexRS g name rules).map fun p => (p.1.mapV f, p.2) := by
  unfold Static.lexRS
  split
  · exact except_bind_mapV _ _ _ _ _ _ (compileRuleSet_mapV f rules g.bindings g.ctxs) (fun q => rfl)
  · show (match g.initDfa.map (List.map (DState.mapVNat f)) with | none => _ | some d0 => _) = _
    cases g.initDfa with
    | none => rfl
    | some d0 =>
      refine except_bind_mapV _ _ _ _ _ _ (compileRuleSet_mapV f rules g.bindings g.ctxs) (fun q => ?_)
      simp only [addDfa_mapV]
      rfl

theorem lexStep_mapV (g : GlueState) (item : TopItem) :
    Static.lexStep (g.mapV f) (item.mapRhs f) = (Static.lexStep g item).map (GlueState.mapV f) := by
  cases item with
  | errorType =>
    rw [TopItem.mapRhs, Static.lexStep_errorType, Static.lexStep_errorType]
    show (if g.errorType = true then _ else _) = _
    split <;> rfl
  | rb y =>
    cases y with
    | binding name re =>
      rw [TopItem.mapRhs, RuleOrBinding.mapRhs, Static.lexStep_binding, Static.lexStep_binding]
      show (if (g.bindings.find? name).isSome = true then _ else _) = _
      split <;> rfl
    | rule r =>
      rw [TopItem.mapRhs, RuleOrBinding.mapRhs, Static.lexStep_rule, Static.lexStep_rule]
      exact except_bind_mapV _ _ _ _ _ _ (compileSingleRule_mapV f g.unnamed r g.bindings g.ctxs) (fun p => rfl)
  | ruleSet name rules =>
    rw [TopItem.mapRhs, Static.lexStep_ruleSet, Static.lexStep_ruleSet]
    refine except_bind_mapV _ _ _ _ _ _ (lexRS_mapV f g name rules) (fun p => ?_)
    show (if (p.1.entries.find? (·.1 = name)).isSome = true then _ else _) = _
    split <;> rfl

theorem lexPost_mapV (g : GlueState) : Static.lexPost (g.mapV f) = (Static.lexPost g).map (Compiled.mapV f) := by
  rw [Static.lexPost_eq, Static.lexPost_eq]
  refine except_bind_mapV (List.map (DState.mapVNat f)) _ _ _ _ _ ?_ (fun dfa => ?_)
  · simp only [GlueState.mapV, nfaToDfa_mapV]
    cases g.initDfa with
    | some d => rfl
    | none => cases nfaToDfa g.unnamed <;> rfl
  · refine except_bind_mapV (List.map (DState.mapVNat f)) _ _ _ _ _ ?_ (fun full => ?_)
    · rw [updateBacktracks_mapV]
      cases updateBacktracks dfa <;> rfl
    · exact except_bind_mapV _ _ _ _ _ _ (simplify_mapV f full g.entries) (fun p => rfl)

/-- the pipeline is natural in the action indices -/
theorem compileLexer_mapV (items : LexerDef) :
    compileLexer (mapRhs f items) = (compileLexer items).map (Compiled.mapV f) := by
  rw [Static.compileLexer_eq, Static.compileLexer_eq, mixedRules_mapRhs]
  split
  · rfl
  · unfold mapRhs
    rw [List.foldlM_map]
    exact except_bind_mapV _ _ _ _ _ _
      (foldlM_hom (GlueState.mapV f) Static.lexStep _ (lexStep_mapV f) items {}) (lexPost_mapV f)


theorem StMap_of_last_none (st : LState σ) (h : st.last = none) : StMap f st = st := by
  cases st
  simp only at h
  subst h
  rfl

theorem obs_StMap (st : LState σ) : (StMap f st).obs = st.obs := rfl

/-- The action does not look at the index under which it is called (the field `action` of its view). The handle a Rust semantic action receives
does not expose that index, so this holds of every action of an actual lexer; the model's `View` carries the index only as a label. -/
def Action.IndexBlind (a : Action σ τ ε) : Prop := ∀ (v : View σ) (i : Nat), a.run { v with action := i } = a.run v

theorem Action.indexBlind_skip : (Action.skip : Action σ τ ε).IndexBlind := fun _ _ => rfl
theorem Action.indexBlind_simple (t : τ) : (Action.simple t : Action σ τ ε).IndexBlind := fun _ _ => rfl

theorem actsAgree_of_eq (acts acts' : Nat → Action σ τ ε) (h : ∀ k, acts' (f k) = acts k) (hb : ∀ k, (acts k).IndexBlind) :
    ActsAgree f acts acts' := by
  intro k v
  rw [h k, hb k v (f k), hb k v k]

/-- **The generated `next()` uses an accept value only to pick the action**, general form: for ANY lexer state (a saved match holds an accept
value: it is renamed too), the renamed machine with a table `acts'` that agrees with `acts` after the renaming makes the same step. -/
theorem next_mapV_gen (c : Compiled) (acts acts' : Nat → Action σ τ ε) (h : ActsAgree f acts acts') (width : Nat → Nat)
    (input : Option (List Nat)) (st : LState σ) :
    next ((c.mapV f).config acts' width input) (StMap f st) =
      (next (c.config acts width input) st).map fun r => (r.1, StMap f r.2) :=
  next_ren (c.renamed_mapV f acts acts' h width input) st

theorem runN_mapV_gen (c : Compiled) (acts acts' : Nat → Action σ τ ε) (h : ActsAgree f acts acts') (width : Nat → Nat)
    (input : Option (List Nat)) (n : Nat) (st : LState σ) :
    runN ((c.mapV f).config acts' width input) n (StMap f st) =
      ((runN (c.config acts width input) n st).1, StMap f (runN (c.config acts width input) n st).2) :=
  runN_ren (c.renamed_mapV f acts acts' h width input) n st

theorem next_mapV (c : Compiled) (acts : Nat → Action σ τ ε) (width : Nat → Nat) (input : Option (List Nat)) (st : LState σ)
    (hlast : st.last = none)
    (hidx : ∀ (k : Nat) (v : View σ), (acts (f k)).run { v with action := f k } = (acts (f k)).run { v with action := k }) :
    next ((c.mapV f).config acts width input) st =
      (next (c.config (fun k => acts (f k)) width input) st).map fun r =>
        (r.1, { r.2 with last := r.2.last.map fun s => { s with action := f s.action } }) := by
  have h := next_mapV_gen f c (fun k => acts (f k)) acts hidx width input st
  rw [StMap_of_last_none f st hlast] at h
  exact h

/-- `action_numbering_irrelevant` with the weakest hypothesis on the tables -/
theorem action_numbering_irrelevant_gen (items : LexerDef) (c : Compiled) (hc : compileLexer items = .ok c)
    (acts acts' : Nat → Action σ τ ε) (h : ActsAgree f acts acts')
    (width : Nat → Nat) (input : Option (List Nat)) (user : σ) (chars : List Nat) (n : Nat) :
    compileLexer (mapRhs f items) = .ok (c.mapV f) ∧
    (runN ((c.mapV f).config acts' width input) n (initState user chars)).1 = (runN (c.config acts width input) n (initState user chars)).1 ∧
    (runN ((c.mapV f).config acts' width input) n (initState user chars)).2.obs = (runN (c.config acts width input) n (initState user chars)).2.obs := by
  have hr := runN_mapV_gen f c acts acts' h width input n (initState user chars)
  rw [StMap_of_last_none f (initState user chars) rfl] at hr
  refine ⟨?_, ?_, ?_⟩
  · rw [compileLexer_mapV, hc]; rfl
  · rw [hr]
  · rw [hr]; rfl

/-- **The numbering of the semantic-action table is irrelevant.** If `acts'` after renaming is `acts` (`acts' (f k) = acts k` for every rule index `k`) —
e.g. `f` merges rules whose actions are equal, or permutes the table; `f` need not be injective — the lexer compiled from the renamed definition with
`acts'` returns the same items as the lexer compiled from the original definition with `acts`, after any number of calls, from a fresh lexer, and ends
in the same observable state. (`hblind`: the actions do not read the label `View.action`, which the model sets to the index under which an action is
called — without it the statement is false, as the `example`s at the end of the file show; `action_numbering_irrelevant_gen` has the weakest hypothesis.) -/
theorem action_numbering_irrelevant (items : LexerDef) (c : Compiled) (hc : compileLexer items = .ok c)
    (acts acts' : Nat → Action σ τ ε) (h : ∀ k, acts' (f k) = acts k) (hblind : ∀ k, (acts k).IndexBlind)
    (width : Nat → Nat) (input : Option (List Nat)) (user : σ) (chars : List Nat) (n : Nat) :
    compileLexer (mapRhs f items) = .ok (c.mapV f) ∧
    (runN ((c.mapV f).config acts' width input) n (initState user chars)).1 = (runN (c.config acts width input) n (initState user chars)).1 ∧
    (runN ((c.mapV f).config acts' width input) n (initState user chars)).2.obs = (runN (c.config acts width input) n (initState user chars)).2.obs :=
  action_numbering_irrelevant_gen f items c hc acts acts' (actsAgree_of_eq f acts acts' h hblind) width input user chars n
end

/-! ## Without the hypothesis on the actions the statements are false -/

def cexC : Compiled :=
  { full := [{ initial := true, chars := [(97, 1)] }, { accepting := [{ value := 0, ctx := none }], preds := [0] }]
    entries0 := []
    dfa := [{ initial := true, chars := [(97, .accept [{ value := 0, ctx := none }])] }]
    entries := []
    ctxs := [] }

def cexItems : LexerDef := [.rb (.rule { re := .chr 97, ctx := none, rhs := 0 })]

/-- an action that stores the index under which it was called in the user state -/
def cexActs : Nat → Action Nat Unit Unit := fun _ => .infallible fun v => { user := v.action, res := some () }

theorem cex_compiles : compileLexer cexItems = .ok cexC := by
  have h : inlineVars [] 1 (.chr 97) = .ok (.chr 97) := by rw [inlineVars]
  have hs : compileSingleRule NFA.new { re := .chr 97, ctx := none, rhs := 0 } [] [] =
      (NFA.new.addRegex (.chr 97) none 0 >>= fun nfa => pure (nfa, [])) := by
    unfold compileSingleRule
    show (inlineVars [] 1 (.chr 97) >>= fun re => _) = _
    rw [h]
    rfl
  rw [Static.compileLexer_eq]
  unfold cexItems
  rw [List.foldlM_cons, Static.lexStep_rule, hs]
  rfl

/-- `next_mapV` without `hidx` is false: the renamed machine calls the action with a view that carries the new index -/
example : ¬ ∀ (f : Nat → Nat) (c : Compiled) (acts : Nat → Action Nat Unit Unit) (width : Nat → Nat) (input : Option (List Nat))
    (st : LState Nat) (_ : st.last = none),
    next ((c.mapV f).config acts width input) st =
      (next (c.config (fun k => acts (f k)) width input) st).map fun r =>
        (r.1, { r.2 with last := r.2.last.map fun s => { s with action := f s.action } }) := by
  intro h
  have h1 := h (fun _ => 1) cexC cexActs (fun _ => 1) none (initState 7 [97]) rfl
  have h2 := congrArg (fun o => o.map (·.2.user)) h1
  simp only [Option.map_map] at h2
  revert h2
  decide

/-- `action_numbering_irrelevant` without `hblind` is false, for the same reason -/
example : ¬ ∀ (f : Nat → Nat) (items : LexerDef) (c : Compiled) (_ : compileLexer items = .ok c)
    (acts acts' : Nat → Action Nat Unit Unit) (_ : ∀ k, acts' (f k) = acts k)
    (width : Nat → Nat) (input : Option (List Nat)) (user : Nat) (chars : List Nat) (n : Nat),
    (runN ((c.mapV f).config acts' width input) n (initState user chars)).2.obs =
      (runN (c.config acts width input) n (initState user chars)).2.obs := by
  intro h
  have h1 := h (fun _ => 1) cexItems cexC cex_compiles cexActs cexActs (fun _ => rfl) (fun _ => 1) none 7 [97] 1
  revert h1
  decide

end Lexgen
