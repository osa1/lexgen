import LexgenModel.Proofs.SubsetSets
/-!
# Subset construction: NFA paths as alternating ε-closure / symbol steps
-/
namespace Lexgen.Subset
open Lexgen

theorem npath_eps_prefix {n : NFA} {s t u : Nat} {w : List Sym} (h : EpsReach n s t)
    (hp : NPath n t w u) : NPath n s w u := by
  induction h with
  | refl => exact hp
  | step he _ ih => exact .eps he (ih hp)

theorem npath_nil {n : NFA} {s u : Nat} : NPath n s [] u ↔ EpsReach n s u := by
  refine ⟨fun h => ?_, fun h => npath_eps_prefix h (.refl u)⟩
  generalize hw : ([] : List Sym) = w at h
  induction h with
  | refl => exact .refl _
  | eps he _ ih => exact .step he (ih hw)
  | sym _ _ _ => cases hw

theorem npath_cons {n : NFA} {s u : Nat} {x : Sym} {w : List Sym} :
    NPath n s (x :: w) u ↔ ∃ s' m, EpsReach n s s' ∧ NFA.stepSym n s' x m ∧ NPath n m w u := by
  refine ⟨fun h => ?_, fun ⟨_, _, h1, h2, h3⟩ => npath_eps_prefix h1 (.sym h2 h3)⟩
  generalize hw : x :: w = w' at h
  induction h with
  | refl => cases hw
  | eps he _ ih =>
    obtain ⟨s', m, h1, h2, h3⟩ := ih hw
    exact ⟨s', m, .step he h1, h2, h3⟩
  | sym hs hp _ =>
    cases hw
    exact ⟨_, _, .refl _, hs, hp⟩

/-- one symbol step on a set of NFA states (given by its membership predicate), followed by
ε-closure -/
def StepP (n : NFA) (P : Nat → Prop) (x : Sym) (t : Nat) : Prop :=
  ∃ s, P s ∧ ∃ m, NFA.stepSym n s x m ∧ EpsReach n m t

def After (n : NFA) : (Nat → Prop) → List Sym → Nat → Prop
  | P, [] => P
  | P, x :: w => After n (StepP n P x) w

theorem stepP_closed (n : NFA) (P : Nat → Prop) (x : Sym) {s t : Nat} (hs : StepP n P x s)
    (hr : EpsReach n s t) : StepP n P x t := by
  obtain ⟨s0, h0, m, hm, hr'⟩ := hs
  exact ⟨s0, h0, m, hm, hr'.trans hr⟩

theorem after_iff_npath (n : NFA) (w : List Sym) :
    ∀ (P : Nat → Prop), (∀ s t, P s → EpsReach n s t → P t) →
      ∀ u, After n P w u ↔ ∃ s, P s ∧ NPath n s w u := by
  induction w with
  | nil =>
    intro P hP u
    simp only [After]
    constructor
    · intro h; exact ⟨u, h, .refl u⟩
    · rintro ⟨s, hs, hp⟩; exact hP s u hs (npath_nil.mp hp)
  | cons x w ih =>
    intro P hP u
    simp only [After]
    rw [ih (StepP n P x) (fun s t => stepP_closed n P x)]
    constructor
    · rintro ⟨t, ⟨s, hs, m, hm, hr⟩, hp⟩
      exact ⟨s, hs, .sym hm (npath_eps_prefix hr hp)⟩
    · rintro ⟨s, hs, hp⟩
      obtain ⟨s', m, h1, h2, h3⟩ := npath_cons.mp hp
      exact ⟨m, ⟨s', hP s s' hs h1, m, h2, .refl m⟩, h3⟩

theorem after_congr (n : NFA) (w : List Sym) (P Q : Nat → Prop) (h : ∀ u, P u ↔ Q u) (u : Nat) :
    After n P w u ↔ After n Q w u := by
  rw [show P = Q from funext fun u => propext (h u)]

theorem after_start (n : NFA) (w : List Sym) (u : Nat) :
    After n (EpsReach n 0) w u ↔ NPath n 0 w u := by
  rw [after_iff_npath n w _ (fun s t h1 h2 => h1.trans h2)]
  constructor
  · rintro ⟨s, hs, hp⟩; exact npath_eps_prefix hs hp
  · intro h; exact ⟨0, .refl 0, h⟩

end Lexgen.Subset
