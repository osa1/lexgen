import LexgenModel.Spec.RefLexer
import LexgenModel.Proofs.ScanPlain
import LexgenModel.Proofs.CandOrder
/-!
# Maximal munch of the plain scan

`scanPlain` (a DFA run with a saved last match) calls the action of the `candLe`-greatest match
`Cand` of the remaining input in the lexer state advanced by exactly that match, and when nothing
matches it is `Lexer::backtrack()` at the point where it stopped: `scanPlain_out`, by the one
induction over the scan that the run-time theorems rest on.
-/
namespace Lexgen

variable {σ τ ε : Type}

section
open ScanPlain

theorem toCfg_goto (t : Nat) : (Target.toCfg (Trans.goto t) : Cfg) = .st t := rfl
theorem toCfg_accept (accs : List Acc) : (Target.toCfg (Trans.accept accs) : Cfg) = .term accs := rfl

theorem reach_nil (d : DFA Trans) (c : Cfg) : reach d c [] = some c := by
  cases c <;> rfl

theorem reach_term (d : DFA Trans) (accs : List Acc) (w : List Nat) (c : Cfg)
    (h : reach d (.term accs) w = some c) : w = [] ∧ c = .term accs := by
  cases w with
  | nil => rw [reach_nil] at h; exact ⟨rfl, (Option.some.inj h).symm⟩
  | cons x w => simp [reach] at h

theorem cand_zero_iff (cfg : Config σ τ ε) (s : Nat) (iter : List Nat) (a : Nat) :
    Cand cfg s iter 0 a false ↔ firstOK (fun i => ctxOK cfg i iter) (cfg.dfa.st s).accepting = some a := by
  constructor
  · rintro ⟨_, c, hc, hsel⟩
    cases (Option.some.inj hc : Cfg.st s = c)
    exact Eq.mp (if_neg Bool.false_ne_true) hsel
  · exact fun h => ⟨Nat.zero_le _, .st s, rfl, Eq.mpr (if_neg Bool.false_ne_true) h⟩

theorem cand_eoi_iff (cfg : Config σ τ ε) (s a : Nat) :
    Cand cfg s [] 0 a true ↔
      ∃ accs, (cfg.dfa.st s).eoi = some (.accept accs) ∧ firstOK (fun i => ctxOK cfg i []) accs = some a := by
  constructor
  · rintro ⟨_, c, hc, hsel⟩
    cases (Option.some.inj hc : Cfg.st s = c)
    rw [if_pos rfl] at hsel
    obtain ⟨_, t, accs, ht, he, hf⟩ := hsel
    cases ht
    exact ⟨accs, he, hf⟩
  · rintro ⟨accs, he, hf⟩
    exact ⟨Nat.le_refl _, .st s, rfl, Eq.mpr (if_pos rfl) ⟨rfl, s, accs, rfl, he, hf⟩⟩

theorem cand_eoi_len {cfg : Config σ τ ε} {s : Nat} {iter : List Nat} {k a : Nat} (h : Cand cfg s iter k a true) :
    k = iter.length := by
  obtain ⟨_, c, _, h⟩ := h
  rw [if_pos rfl] at h
  exact h.1

theorem cand_nil_inv (cfg : Config σ τ ε) (s k a : Nat) (e : Bool) (h : Cand cfg s [] k a e) :
    k = 0 :=
  Nat.le_zero.1 h.1

theorem cand_succ_goto (cfg : Config σ τ ε) (s c t : Nat) (rest : List Nat) (k a : Nat) (e : Bool)
    (ht : lookupTrans (cfg.dfa.st s) c = some (.goto t)) :
    Cand cfg s (c :: rest) (k + 1) a e ↔ Cand cfg t rest k a e := by
  simp only [Cand, List.take_succ_cons, List.drop_succ_cons, List.length_cons, reach, ht, toCfg_goto,
    Nat.add_le_add_iff_right, Nat.add_right_cancel_iff]

theorem cand_succ_none (cfg : Config σ τ ε) (s c : Nat) (rest : List Nat) (k a : Nat) (e : Bool)
    (ht : lookupTrans (cfg.dfa.st s) c = none) : ¬ Cand cfg s (c :: rest) (k + 1) a e := by
  intro h
  obtain ⟨_, c', hc, _⟩ := h
  simp [reach, ht] at hc

theorem cand_succ_accept (cfg : Config σ τ ε) (s c : Nat) (rest : List Nat) (k a : Nat) (e : Bool)
    (accs : List Acc) (ht : lookupTrans (cfg.dfa.st s) c = some (.accept accs)) :
    Cand cfg s (c :: rest) (k + 1) a e ↔ k = 0 ∧ e = false ∧ firstOK (fun i => ctxOK cfg i rest) accs = some a := by
  constructor
  · rintro ⟨hle, c', hc, hsel⟩
    simp only [List.take_succ_cons, reach, ht, toCfg_accept] at hc
    obtain ⟨hw, hc'⟩ := reach_term _ _ _ _ hc
    subst hc'
    have hk : k = 0 := by
      rcases List.take_eq_nil_iff.1 hw with h | h
      · exact h
      · subst h
        exact Nat.le_zero.1 (Nat.le_of_succ_le_succ hle)
    subst hk
    cases e with
    | true =>
      rw [if_pos rfl] at hsel
      obtain ⟨_, t, accs', ht', _⟩ := hsel
      cases ht'
    | false => exact ⟨rfl, rfl, Eq.mp (if_neg Bool.false_ne_true) hsel⟩
  · rintro ⟨rfl, rfl, hf⟩
    refine ⟨by simp, .term accs, ?_, ?_⟩
    · simp [reach, ht, toCfg_accept]
    · simpa [selAt, Auto.acc] using hf

def Best (cfg : Config σ τ ε) (s : Nat) (iter : List Nat) (k a : Nat) (e : Bool) : Prop :=
  Cand cfg s iter k a e ∧ ∀ k' a' e', Cand cfg s iter k' a' e' → candLe k' e' k e

def NoCand (cfg : Config σ τ ε) (s : Nat) (iter : List Nat) : Prop :=
  ∀ k a e, ¬ Cand cfg s iter k a e

section
variable {cfg : Config σ τ ε} {s : Nat} {iter : List Nat} {rules : List CoreRule} {ctxAt : Nat → Regex}
  (hiff : ∀ n a v, Cand cfg s iter n a v ↔ LangCand rules ctxAt iter n a v)
include hiff

/-- where the matches of the machine from `s` are the language-level matches of `rules`, its greatest match is the one the
definition selects -/
theorem Best.selects {k a : Nat} {e : Bool} (h : Best cfg s iter k a e) : Selects rules ctxAt iter k a e :=
  ⟨(hiff _ _ _).mp h.1, fun n' a' e' hL => h.2 n' a' e' ((hiff _ _ _).mpr hL)⟩

theorem NoCand.lang (h : NoCand cfg s iter) : ∀ n a v, ¬ LangCand rules ctxAt iter n a v :=
  fun n a v hL => h n a v ((hiff n a v).mpr hL)

end

theorem Best.succ {cfg : Config σ τ ε} {s c t : Nat} {rest : List Nat} {k a : Nat} {e : Bool}
    (ht : lookupTrans (cfg.dfa.st s) c = some (.goto t)) (h : Best cfg t rest k a e) :
    Best cfg s (c :: rest) (k + 1) a e := by
  refine ⟨(cand_succ_goto cfg s c t rest k a e ht).mpr h.1, fun k' a' e' hc => ?_⟩
  cases k' with
  | zero => exact Or.inl (Nat.succ_pos k)
  | succ k' => exact candLe_succ (h.2 k' a' e' ((cand_succ_goto cfg s c t rest k' a' e' ht).mp hc))

theorem cand_cons_zero {cfg : Config σ τ ε} {s c : Nat} {rest : List Nat}
    (hno : ∀ k a e, ¬ Cand cfg s (c :: rest) (k + 1) a e) {k a : Nat} {e : Bool}
    (h : Cand cfg s (c :: rest) k a e) : k = 0 ∧ e = false := by
  cases k with
  | succ k => exact absurd h (hno k a e)
  | zero =>
    cases e with
    | false => exact ⟨rfl, rfl⟩
    | true => cases cand_eoi_len h

theorem setAccepting_eq (cfg : Config σ τ ε) (d : DState Trans) (st : LState σ) :
    setAccepting cfg d st =
      { st with
        last := (firstOK (fun i => ctxOK cfg i st.iter) d.accepting).elim st.last
          (fun a => some { start := st.curStart, iter := st.iter, action := a, stop := st.curEnd }) } := by
  unfold setAccepting
  cases firstOK (fun i => ctxOK cfg i st.iter) d.accepting <;> rfl

theorem setAccepting_nil (cfg : Config σ τ ε) (d : DState Trans) (st : LState σ) (h : d.accepting = []) :
    setAccepting cfg d st = st := by
  rw [setAccepting_eq, h]
  rfl

theorem testRightCtxs_eq (cfg : Config σ τ ε) (accs : List Acc) (st : LState σ) (dflt : Unit → Outcome σ) :
    testRightCtxs cfg accs st dflt =
      (firstOK (fun i => ctxOK cfg i st.iter) accs).elim (dflt ()) fun a => .act a { st with last := none } := by
  unfold testRightCtxs
  cases firstOK (fun i => ctxOK cfg i st.iter) accs <;> rfl

theorem gotoLen_nil (d : DFA Trans) (s : Nat) : gotoLen d s [] = 0 := by
  rw [gotoLen]

theorem gotoLen_cons_goto (d : DFA Trans) (s c t : Nat) (rest : List Nat)
    (h : lookupTrans (d.st s) c = some (.goto t)) : gotoLen d s (c :: rest) = gotoLen d t rest + 1 := by
  rw [gotoLen, h]

theorem gotoLen_cons_stop (d : DFA Trans) (s c : Nat) (rest : List Nat)
    (h : ∀ t, lookupTrans (d.st s) c ≠ some (.goto t)) : gotoLen d s (c :: rest) = 0 := by
  rw [gotoLen]
  split
  · exact absurd ‹_› (h _)
  · rfl

theorem gotoLen_le (d : DFA Trans) : ∀ (iter : List Nat) (s : Nat), gotoLen d s iter ≤ iter.length := by
  intro iter
  induction iter with
  | nil => exact fun s => Nat.le_of_eq (gotoLen_nil d s)
  | cons c rest ih =>
    intro s
    rw [gotoLen]
    split
    · exact Nat.succ_le_succ (ih _)
    · exact Nat.zero_le _

theorem goto_lt (d : DFA Trans) (h : targetsOK d = true) (s c t : Nat)
    (ht : lookupTrans (d.st s) c = some (.goto t)) : t < d.length :=
  targets_lt d h s t (goto_mem_gotoSuccs _ t (lookupTrans_mem_succs _ _ _ ht))

/-- Whether or not the target is inlined, a `goto` continues with the target's code; only the
stored state number differs. -/
theorem gotoK_scanPlain (cfg : Config σ τ ε) (ns : Nat → Option Nat)
    (htargets : targetsOK cfg.dfa = true) (hns : DispatchOK cfg.dfa cfg.inl ns) (s c t : Nat)
    (ht : lookupTrans (cfg.dfa.st s) c = some (.goto t)) (rest : List Nat) (st : LState σ) :
    ∃ n, ScanPlain.gotoK (scanPlain cfg ns) cfg ns rest st t = scanPlain cfg ns t rest { st with state := n } := by
  unfold ScanPlain.gotoK
  cases hin : inlinedAt cfg.inl t with
  | true => exact ⟨st.state, rfl⟩
  | false => exact ⟨renumber cfg.inl t, by simp only [hns t (goto_lt _ htargets _ _ _ ht) hin]; rfl⟩

/-- The lexer state in which a scan from `s` that selects nothing stops: behind the characters read
through `goto` transitions and the offending one (if the input did not end first, which `done`
records); `n` is whatever `__state` holds by then. -/
def stopSt (cfg : Config σ τ ε) (s : Nat) (st : LState σ) (n : Nat) : LState σ :=
  { advanceBy cfg.width st (gotoLen cfg.dfa s st.iter + 1) with
    done := decide (gotoLen cfg.dfa s st.iter = st.iter.length) || st.done, state := n }

/-- what `machineWF` excludes of the transitions: none leads back to state 0 and none is taken at the
end of the input -/
def NoStray (d : DFA Trans) : Prop :=
  (∀ q c, lookupTrans (d.st q) c ≠ some (.goto 0)) ∧ ∀ q t, (d.st q).eoi ≠ some (.goto t)

/-- The outcome of the plain scan from state `s` in lexer state `st` (which may hold a saved match).
In `act`, `d` is `false` after a fallback to the saved match and `st.done` otherwise (a match through
`$` sets it): all the same when the scan starts with `done = false`, as every scan of `next()` does.
`strayFin` and `strayGoto` allow any `.fin` or `.goto` when the machine has a transition into state 0 or a
`goto` on end-of-input: so `scanPlain_out`, and `scanPlain_act` and `scanPlain_err` after it, need no `NoStray`
hypothesis, and `scan_spec` discards the two cases for a `MachineOK` machine. -/
inductive ScanOut (cfg : Config σ τ ε) (s : Nat) (st : LState σ) : Outcome σ → Prop
  | act {k a : Nat} {e : Bool} (n : Nat) (d : Bool) : Best cfg s st.iter k a e → (d = e ∨ (e = false ∧ d = st.done)) →
      ScanOut cfg s st (.act a { matchState cfg.width st k e n with done := d })
  | fail (n : Nat) : NoCand cfg s st.iter → ¬ (s = 0 ∧ st.iter = []) →
      ScanOut cfg s st (failPlain (stopSt cfg s st n))
  | fin : s = 0 → st.iter = [] → (∀ a, ¬ Cand cfg 0 [] 0 a true) →
      ScanOut cfg s st (.fin { st with done := true, last := (setAccepting cfg (cfg.dfa.st 0) st).last })
  | strayFin (st' : LState σ) : ¬ NoStray cfg.dfa → ScanOut cfg s st (.fin st')
  | strayGoto (st' : LState σ) : ¬ NoStray cfg.dfa → ScanOut cfg s st (.goto st')

/-- `backtrack()` where only matches of length 0 (not through `$`) exist: the one saved on entry to
`s`, or else whatever `st` held. -/
theorem ScanOut.of_fail {cfg : Config σ τ ε} {s : Nat} {st : LState σ}
    (h0 : ∀ k a e, Cand cfg s st.iter k a e → k = 0 ∧ e = false) (hne : ¬ (s = 0 ∧ st.iter = [])) (n : Nat) :
    ScanOut cfg s st (failPlain { stopSt cfg s st n with last := (setAccepting cfg (cfg.dfa.st s) st).last }) := by
  rw [setAccepting_eq]
  cases hf : firstOK (fun i => ctxOK cfg i st.iter) (cfg.dfa.st s).accepting with
  | none =>
    refine .fail n (fun k a e hc => ?_) hne
    obtain ⟨rfl, rfl⟩ := h0 k a e hc
    have := (cand_zero_iff cfg s _ a).mp hc
    rw [hf] at this
    cases this
  | some a =>
    refine ScanOut.act (k := 0) (e := false) n false ⟨(cand_zero_iff cfg s _ a).mpr hf, fun k' a' e' hc => ?_⟩ (.inl rfl)
    obtain ⟨rfl, rfl⟩ := h0 k' a' e' hc
    exact Or.inr ⟨rfl, id⟩

theorem failPlain_none {st : LState σ} (h : st.last = none) :
    failPlain st = .err st.curStart { st with last := none, state := 0, initial := 0, curStart := st.curEnd } := by
  unfold failPlain
  rw [h]

/-- what an `InvalidToken` leaves behind when the scan started in `st` with nothing saved -/
def errSt (cfg : Config σ τ ε) (s : Nat) (st : LState σ) : LState σ :=
  { advanceBy cfg.width st (gotoLen cfg.dfa s st.iter + 1) with
    state := 0, initial := 0, last := none,
    curStart := (advanceBy cfg.width st (gotoLen cfg.dfa s st.iter + 1)).curEnd,
    done := decide (gotoLen cfg.dfa s st.iter = st.iter.length) }

theorem failPlain_stopSt {cfg : Config σ τ ε} {s : Nat} {st : LState σ} (hl : st.last = none) (hd : st.done = false)
    (n : Nat) : failPlain (stopSt cfg s st n) = .err st.curStart (errSt cfg s st) := by
  rw [failPlain_none (st := stopSt cfg s st n) hl]
  unfold stopSt errSt
  rw [hd, Bool.or_false]
  rfl

theorem errSt_advance (cfg : Config σ τ ε) (s : Nat) (st : LState σ) :
    ∃ k, k ≤ st.iter.length ∧ (0 < k ∨ (errSt cfg s st).done = true) ∧
      ((errSt cfg s st).done = true → k = st.iter.length) ∧ (errSt cfg s st).iter = st.iter.drop k ∧
      (errSt cfg s st).curEnd = (st.iter.take k).foldl (Loc.advance cfg.width) st.curEnd := by
  by_cases hg : gotoLen cfg.dfa s st.iter + 1 ≤ st.iter.length
  · refine ⟨_, hg, Or.inl (Nat.succ_pos _), fun hd => ?_, rfl, rfl⟩
    exact absurd (of_decide_eq_true hd ▸ hg) (Nat.not_succ_le_self _)
  · have hlt : st.iter.length ≤ gotoLen cfg.dfa s st.iter + 1 := Nat.le_of_lt (Nat.lt_of_not_le hg)
    have heq : gotoLen cfg.dfa s st.iter = st.iter.length :=
      Nat.le_antisymm (gotoLen_le cfg.dfa st.iter s) (Nat.le_of_lt_succ (Nat.lt_of_not_le hg))
    refine ⟨st.iter.length, Nat.le_refl _, Or.inr (decide_eq_true heq), fun _ => rfl, ?_, ?_⟩
    · show st.iter.drop (gotoLen cfg.dfa s st.iter + 1) = st.iter.drop st.iter.length
      rw [List.drop_eq_nil_of_le hlt, List.drop_eq_nil_of_le (Nat.le_refl _)]
    · show (st.iter.take (gotoLen cfg.dfa s st.iter + 1)).foldl _ _ = _
      rw [List.take_of_length_le hlt, List.take_of_length_le (Nat.le_refl _)]

theorem errResume_errSt (cfg : Config σ τ ε) (s : Nat) (st : LState σ) : ErrResume st (errSt cfg s st) :=
  ⟨⟨rfl, rfl⟩, rfl, rfl, rfl, ⟨_, rfl, Or.inl (Nat.succ_pos _)⟩, fun hd =>
    List.drop_eq_nil_of_le (Nat.le_succ_of_le (Nat.le_of_eq (of_decide_eq_true hd).symm))⟩

theorem with_iter_self (st : LState σ) (l : List Nat) (h : st.iter = l) : { st with iter := l } = st := by
  subst h; rfl

theorem stepSt_eq (cfg : Config σ τ ε) (d : DState Trans) {c : Nat} {rest : List Nat} {st : LState σ}
    (hit : st.iter = c :: rest) :
    stepSt cfg d c rest st =
      { st with iter := rest, curEnd := st.curEnd.advance cfg.width c, last := (setAccepting cfg d st).last } := by
  unfold stepSt
  rw [with_iter_self st _ hit, setAccepting_eq]

theorem eoiSt_eq (cfg : Config σ τ ε) (d : DState Trans) {st : LState σ} (hit : st.iter = []) :
    eoiSt cfg d st = { st with done := true, last := (setAccepting cfg d st).last } := by
  unfold eoiSt
  rw [with_iter_self st _ hit, setAccepting_eq]

theorem matchState_succ {w : Nat → Nat} {st : LState σ} {c : Nat} {rest : List Nat} (hit : st.iter = c :: rest)
    (l : Option Saved) (m k : Nat) (e : Bool) (n : Nat) :
    matchState w { st with iter := rest, curEnd := st.curEnd.advance w c, last := l, state := m } k e n =
      matchState w st (k + 1) e n := by
  simp only [matchState, advanceBy, hit, List.drop_succ_cons, List.take_succ_cons, List.foldl_cons]

theorem stopSt_succ {cfg : Config σ τ ε} {s c t : Nat} {rest : List Nat} {st : LState σ} (hit : st.iter = c :: rest)
    (ht : lookupTrans (cfg.dfa.st s) c = some (.goto t)) (l : Option Saved) (m n : Nat) :
    stopSt cfg t { st with iter := rest, curEnd := st.curEnd.advance cfg.width c, last := l, state := m } n =
      { stopSt cfg s st n with last := l } := by
  simp only [stopSt, advanceBy, hit, gotoLen_cons_goto _ _ _ _ _ ht, List.drop_succ_cons, List.take_succ_cons,
    List.foldl_cons, List.length_cons, Nat.add_right_cancel_iff]

theorem stopSt_zero {cfg : Config σ τ ε} {s c : Nat} {rest : List Nat} {st : LState σ} (hit : st.iter = c :: rest)
    (hg : gotoLen cfg.dfa s st.iter = 0) (n : Nat) :
    stopSt cfg s st n = { st with iter := rest, curEnd := st.curEnd.advance cfg.width c, state := n } := by
  rw [hit] at hg
  simp [stopSt, advanceBy, hit, hg]

theorem stopSt_nil {cfg : Config σ τ ε} {s : Nat} {st : LState σ} (hit : st.iter = []) :
    stopSt cfg s st st.state = { st with done := true } := by
  obtain ⟨q, dn, ini, u, it, cs, ce, l⟩ := st
  cases hit
  rfl

/-- Induction on the remaining input, for every state and every lexer state at once (the saved match changes
along the way); the statements about a scan are case analyses of this one. -/
theorem scanPlain_out (cfg : Config σ τ ε) (ns : Nat → Option Nat)
    (htargets : targetsOK cfg.dfa = true) (hns : DispatchOK cfg.dfa cfg.inl ns) :
    ∀ (iter : List Nat) (s : Nat) (st : LState σ), st.iter = iter →
      ScanOut cfg s st (scanPlain cfg ns s iter st) := by
  intro iter
  induction iter with
  | nil =>
    intro s st hit
    rw [scanPlain_nil, eoiSt_eq cfg _ hit]
    refine arm_cases _ (fun t he => .strayGoto _ (fun h => h.2 s t he)) (fun accs a he hf => ?_) (fun _ hno => ?_)
    · refine ScanOut.act (k := 0) (e := true) st.state true
        ⟨hit ▸ (cand_eoi_iff cfg s a).mpr ⟨accs, he, hit ▸ hf⟩, fun k' a' e' hc => ?_⟩ (.inl rfl)
      rw [hit] at hc
      cases cand_nil_inv cfg s k' a' e' hc
      exact Or.inr ⟨rfl, fun _ => rfl⟩
    · have hnoe : ∀ a, ¬ Cand cfg s [] 0 a true := fun a hc => by
        obtain ⟨accs, h, hf⟩ := (cand_eoi_iff cfg s a).mp hc
        exact hno accs a h (hit ▸ hf)
      by_cases hs : s = 0
      · subst hs
        rw [if_pos rfl]
        exact .fin rfl hit hnoe
      · rw [if_neg hs]
        have := ScanOut.of_fail (cfg := cfg) (s := s) (st := st) (fun k a e hc => ?_) (fun h => hs h.1) st.state
        · rw [stopSt_nil hit] at this
          exact this
        rw [hit] at hc
        cases cand_nil_inv cfg s k a e hc
        cases e with
        | false => exact ⟨rfl, rfl⟩
        | true => exact absurd hc (hnoe a)
  | cons c rest ih =>
    intro s st hit
    rw [scanPlain_cons, stepSt_eq cfg _ hit]
    refine arm_cases _ (fun t hlt => ?_) (fun accs a1 hlt hf => ?_) (fun hng hno => ?_)
    · obtain ⟨n2, hg⟩ := gotoK_scanPlain cfg ns htargets hns s c t hlt rest
        { st with iter := rest, curEnd := st.curEnd.advance cfg.width c,
                  last := (setAccepting cfg (cfg.dfa.st s) st).last }
      rw [hg]
      have hrec := ih t
        { st with iter := rest, curEnd := st.curEnd.advance cfg.width c,
                  last := (setAccepting cfg (cfg.dfa.st s) st).last, state := n2 } rfl
      generalize scanPlain cfg ns t rest _ = o at hrec ⊢
      cases hrec with
      | act n d hb hd =>
        rw [matchState_succ hit]
        exact .act n d (hit ▸ hb.succ hlt) hd
      | fail n hno hne =>
        rw [stopSt_succ hit hlt]
        refine ScanOut.of_fail ?_ (fun h => by rw [hit] at h; cases h.2) n
        rw [hit]
        exact fun k a e => cand_cons_zero (fun k a e hc => hno k a e ((cand_succ_goto cfg s c t rest k a e hlt).mp hc))
      | fin h0 _ _ => exact .strayFin _ (fun h => h.1 s c (h0 ▸ hlt))
      | strayFin st' h => exact .strayFin st' h
      | strayGoto st' h => exact .strayGoto st' h
    · have key : ScanOut cfg s st (.act a1 { matchState cfg.width st 1 false st.state with done := st.done }) := by
        refine .act st.state st.done ⟨hit ▸ (cand_succ_accept cfg s c rest 0 a1 false accs hlt).mpr ⟨rfl, rfl, hf⟩, ?_⟩
          (.inr ⟨rfl, rfl⟩)
        rw [hit]
        intro k' a' e' hc
        cases k' with
        | zero => exact Or.inl Nat.one_pos
        | succ k' =>
          obtain ⟨rfl, rfl, _⟩ := (cand_succ_accept cfg s c rest k' a' e' accs hlt).mp hc
          exact Or.inr ⟨rfl, id⟩
      rw [← matchState_succ hit none st.state 0 false st.state] at key
      exact key
    · -- no match of positive length: `backtrack()`
      have hnopos : ∀ k a e, ¬ Cand cfg s (c :: rest) (k + 1) a e := fun k a e hc => by
        cases hlt : lookupTrans (cfg.dfa.st s) c with
        | none => exact cand_succ_none cfg s c rest k a e hlt hc
        | some tr =>
          cases tr with
          | goto t => exact hng t hlt
          | accept accs => exact hno accs a hlt ((cand_succ_accept cfg s c rest k a e accs hlt).mp hc).2.2
      have := ScanOut.of_fail (cfg := cfg) (s := s) (st := st) (by rw [hit]; exact fun k a e => cand_cons_zero hnopos)
        (fun h => by rw [hit] at h; cases h.2) st.state
      rw [stopSt_zero hit (by rw [hit]; exact gotoLen_cons_stop _ _ _ _ hng)] at this
      exact this

end

/-- When the scan calls action `a`, `(k, a, e)` is a match of the remaining input, no match is
longer (and at full length an end-of-input match wins), and the lexer state is the start state
advanced by exactly `k` characters. -/
theorem scanPlain_act (cfg : Config σ τ ε) (ns : Nat → Option Nat)
    (htargets : targetsOK cfg.dfa = true) (hns : DispatchOK cfg.dfa cfg.inl ns)
    (s : Nat) (st : LState σ) (hlast : st.last = none) (hdone : st.done = false) (a : Nat) (st' : LState σ)
    (h : scanPlain cfg ns s st.iter st = .act a st') :
    ∃ k e, Cand cfg s st.iter k a e ∧
      (∀ k' a' e', Cand cfg s st.iter k' a' e' → candLe k' e' k e) ∧
      ∃ n, st' = { advanceBy cfg.width st k with last := none, done := e, state := n } := by
  have ho := scanPlain_out cfg ns htargets hns st.iter s st rfl
  generalize scanPlain cfg ns s st.iter st = o at h ho
  cases ho with
  | act n d hb hd =>
    cases h
    refine ⟨_, _, hb.1, hb.2, n, ?_⟩
    rcases hd with rfl | ⟨rfl, rfl⟩
    · rfl
    · rw [hdone]
      rfl
  | fail n =>
    rw [failPlain_stopSt hlast hdone] at h
    cases h
  | fin => cases h
  | strayFin => cases h
  | strayGoto => cases h

/-- When the scan reports an error, nothing matches; the error is located at the match start and
the lexer is reset to state 0 with an empty match. -/
theorem scanPlain_err (cfg : Config σ τ ε) (ns : Nat → Option Nat)
    (htargets : targetsOK cfg.dfa = true) (hns : DispatchOK cfg.dfa cfg.inl ns)
    (s : Nat) (st : LState σ) (hlast : st.last = none) (loc : Loc) (st' : LState σ)
    (h : scanPlain cfg ns s st.iter st = .err loc st') :
    (∀ k a e, ¬ Cand cfg s st.iter k a e) ∧ loc = st.curStart ∧
      st'.state = 0 ∧ st'.initial = 0 ∧ st'.curStart = st'.curEnd ∧ st'.last = none ∧ st'.user = st.user := by
  have ho := scanPlain_out cfg ns htargets hns st.iter s st rfl
  generalize scanPlain cfg ns s st.iter st = o at h ho
  cases ho with
  | act => cases h
  | fail n hno =>
    rw [failPlain_none (st := stopSt cfg s st n) hlast] at h
    cases h
    exact ⟨hno, rfl, rfl, rfl, rfl, rfl, rfl⟩
  | fin => cases h
  | strayFin => cases h
  | strayGoto => cases h

end Lexgen

