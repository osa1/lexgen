import LexgenModel.Proofs.Glue
/-!
# What a successful step of `lexer()` can only extend
-/
namespace Lexgen
namespace Static

theorem rejected_error {α : Type} (e : CompileError) : Rejected (Except.error e : Except CompileError α) := ⟨e, rfl⟩

theorem rejected_of_not_ok {α : Type} {x : Except CompileError α} (h : ∀ v, x ≠ .ok v) : Rejected x := by
  cases x with
  | error e => exact ⟨e, rfl⟩
  | ok v => exact absurd rfl (h v)

theorem find?_append_isSome (b : Bindings) (m : String) (r : Regex) (n : String)
    (h : (Bindings.find? b n).isSome = true) : (Bindings.find? (b ++ [(m, r)]) n).isSome = true := by
  rw [find?_isSome_iff] at h ⊢
  unfold boundNames
  rw [List.map_append]
  exact List.mem_append_left _ h

theorem entries_append_isSome (l : List (String × Nat)) (x : String × Nat) (n : String)
    (h : (l.find? (·.1 = n)).isSome = true) : ((l ++ [x]).find? (·.1 = n)).isSome = true := by
  rw [List.find?_append, Option.isSome_or, h]
  rfl

structure Ext (g g' : GlueState) : Prop where
  bindings : ∀ n, (g.bindings.find? n).isSome = true → (g'.bindings.find? n).isSome = true
  errorType : g.errorType = true → g'.errorType = true
  entries : ∀ n, (g.entries.find? (·.1 = n)).isSome = true → (g'.entries.find? (·.1 = n)).isSome = true

theorem lexStep_ext (g : GlueState) (item : TopItem) (g' : GlueState) (h : lexStep g item = .ok g') :
    Ext g g' :=
  lexStep_ok_cases (R := fun g _ g' => Ext g g') h
    (fun _ => ⟨fun _ h => h, fun _ => rfl, fun _ h => h⟩)
    (fun _ _ _ => ⟨fun _ hk => find?_append_isSome _ _ _ _ hk, fun h => h, fun _ h => h⟩)
    (fun _ _ _ _ => ⟨fun _ h => h, fun h => h, fun _ h => h⟩)
    (fun _ _ _ _ _ _ _ _ _ => ⟨fun _ h => h, fun h => h, fun _ hk => entries_append_isSome _ _ _ hk⟩)

end Static
end Lexgen
