import LexgenModel.Model.TableGen
/-!
# Specification of the table generator model (`generateRanges`)

The output of `generateRanges f max` is the unique canonical range list over `0..=max` covering
exactly the scalar values satisfying `f`.
-/

namespace Lexgen

def covers (l : List (Nat × Nat)) (c : Nat) : Prop := ∃ p ∈ l, p.1 ≤ c ∧ c ≤ p.2

/-- Canonical range list over `0..=max`: scalar end points, non-inverted, within `max`, strictly
increasing, and consecutive ranges separated by at least one scalar value (maximality). -/
def Canon (max : Nat) : List (Nat × Nat) → Prop
  | [] => True
  | (s, e) :: rest =>
    isScalar s = true ∧ isScalar e = true ∧ s ≤ e ∧ e ≤ max ∧ (∀ p ∈ rest, nextScalar e < p.1) ∧ Canon max rest

theorem isScalar_iff (c : Nat) : isScalar c = true ↔ c < 55296 ∨ 57343 < c := by
  unfold isScalar
  simp only [Bool.not_eq_true', Bool.and_eq_false_iff, decide_eq_false_iff_not, Nat.not_le]

theorem isScalar_false_iff (c : Nat) : isScalar c = false ↔ 55296 ≤ c ∧ c ≤ 57343 := by
  unfold isScalar
  simp only [Bool.not_eq_false', Bool.and_eq_true, decide_eq_true_eq]

theorem nextScalar_eq (x : Nat) :
    (x + 1 = 55296 ∧ nextScalar x = 57344) ∨ (x + 1 ≠ 55296 ∧ nextScalar x = x + 1) := by
  unfold nextScalar
  split
  next h => exact Or.inl ⟨h, rfl⟩
  next h => exact Or.inr ⟨h, rfl⟩

theorem lt_nextScalar (x : Nat) : x < nextScalar x := by
  rcases nextScalar_eq x with ⟨h, e⟩ | ⟨_, e⟩
  · rw [e]
    exact Nat.lt_of_succ_lt (Nat.lt_of_le_of_lt (Nat.le_of_eq h) (by decide))
  · rw [e]
    exact Nat.lt_succ_self x

theorem isScalar_nextScalar (x : Nat) (h : isScalar x = true) : isScalar (nextScalar x) = true := by
  rw [isScalar_iff] at h ⊢
  rcases nextScalar_eq x with ⟨_, e⟩ | ⟨hne, e⟩
  · rw [e]
    exact Or.inr (by decide)
  · rw [e]
    exact h.imp (fun h => Nat.lt_of_le_of_ne h hne) Nat.lt_succ_of_lt

theorem nextScalar_le (x y : Nat) (hxy : x < y) (hy : isScalar y = true) : nextScalar x ≤ y := by
  rw [isScalar_iff] at hy
  rcases nextScalar_eq x with ⟨h, e⟩ | ⟨_, e⟩
  · rw [e]
    exact hy.resolve_left (Nat.not_lt_of_le (Nat.le_trans (Nat.le_of_eq h.symm) hxy))
  · rw [e]
    exact hxy

theorem covers_nil (c : Nat) : ¬ covers [] c :=
  fun ⟨_, hp, _⟩ => nomatch hp

theorem covers_cons (p : Nat × Nat) (l : List (Nat × Nat)) (c : Nat) :
    covers (p :: l) c ↔ (p.1 ≤ c ∧ c ≤ p.2) ∨ covers l c := by
  unfold covers
  simp only [List.mem_cons, or_and_right, exists_or, exists_eq_left]

theorem covers_reverse (l : List (Nat × Nat)) (c : Nat) : covers l.reverse c ↔ covers l c := by
  unfold covers
  simp only [List.mem_reverse]

theorem canon_snoc (max s e : Nat) (hs : isScalar s = true) (he : isScalar e = true) (hse : s ≤ e)
    (hem : e ≤ max) :
    ∀ (l : List (Nat × Nat)), Canon max l → (∀ p ∈ l, nextScalar p.2 < s) →
      Canon max (l ++ [(s, e)]) := by
  intro l hc hsep
  induction l with
  | nil => exact ⟨hs, he, hse, hem, fun _ hp => (nomatch hp), trivial⟩
  | cons q rest ih =>
    obtain ⟨h1, h2, h3, h4, h5, h6⟩ := hc
    refine ⟨h1, h2, h3, h4, fun p hp => ?_, ih h6 fun p hp => hsep p (List.mem_cons_of_mem _ hp)⟩
    rcases List.mem_append.mp hp with hp | hp
    · exact h5 p hp
    · rw [List.mem_singleton.mp hp]
      exact hsep q List.mem_cons_self

/-- The emitted ranges `acc` (most recent first) are final with respect to the bound `b`: they are
canonical, end (with a separating scalar) before `b`, and cover exactly the satisfying scalars
below `b`. -/
structure Closed (f : Nat → Bool) (max b : Nat) (acc : List (Nat × Nat)) : Prop where
  canon : Canon max acc.reverse
  sep : ∀ p ∈ acc, nextScalar p.2 < b
  cov : ∀ c, c < b → isScalar c = true → (f c = true ↔ covers acc c)

/-- A range starting at `s` is open at position `i`; `last` is the greatest scalar below `i`. -/
structure Opened (f : Nat → Bool) (max i : Nat) (acc : List (Nat × Nat)) (s last : Nat) : Prop where
  closed : Closed f max s acc
  start : isScalar s = true
  le : s ≤ last
  lt : last < i
  scalar : isScalar last = true
  sat : ∀ c, c < i → s ≤ c → isScalar c = true → f c = true
  gap : ∀ c, c < i → last < c → isScalar c = false

def GenInv (f : Nat → Bool) (max i : Nat) (acc : List (Nat × Nat)) (last : Nat) : Option Nat → Prop
  | none => Closed f max i acc
  | some s => Opened f max i acc s last

def Post (f : Nat → Bool) (max : Nat) (l : List (Nat × Nat)) : Prop :=
  Canon max l ∧ ∀ c, c ≤ max → isScalar c = true → (f c = true ↔ covers l c)

section
variable {f : Nat → Bool} {max fuel i : Nat} {acc : List (Nat × Nat)} {cur : Option Nat} {s last : Nat}

theorem Closed.succ (hcanon : Canon max acc.reverse)
    (hsep : ∀ p ∈ acc, nextScalar p.2 ≤ i)
    (hcov : ∀ c, c < i → isScalar c = true → (f c = true ↔ covers acc c))
    (hi : isScalar i = true → f i = false) : Closed f max (i + 1) acc where
  canon := hcanon
  sep p hp := Nat.lt_succ_of_le (hsep p hp)
  cov := Nat.forall_lt_succ_right.mpr ⟨hcov, fun hs =>
    ⟨fun hf => (nomatch (hi hs).symm.trans hf),
     fun ⟨p, hp, _, hpc⟩ => absurd (Nat.lt_of_lt_of_le (lt_nextScalar p.2) (hsep p hp)) (Nat.not_lt_of_le hpc)⟩⟩

theorem Closed.skip (h : Closed f max i acc)
    (hi : isScalar i = true → f i = false) : Closed f max (i + 1) acc :=
  .succ h.canon (fun p hp => Nat.le_of_lt (h.sep p hp)) h.cov hi

theorem Closed.opened (h : Closed f max i acc)
    (hi : isScalar i = true) (hfi : f i = true) : Opened f max (i + 1) acc i i where
  closed := h
  start := hi
  le := Nat.le_refl i
  lt := Nat.lt_succ_self i
  scalar := hi
  sat _ hc hic _ := Nat.le_antisymm (Nat.le_of_lt_succ hc) hic ▸ hfi
  gap _ hc hic := absurd (Nat.le_of_lt_succ hc) (Nat.not_le_of_lt hic)

theorem Opened.skip (h : Opened f max i acc s last) (hi : isScalar i = false) : Opened f max (i + 1) acc s last :=
  { h with
    lt := Nat.lt_succ_of_lt h.lt
    sat := Nat.forall_lt_succ_right.mpr ⟨h.sat, fun _ hs => nomatch hi.symm.trans hs⟩
    gap := Nat.forall_lt_succ_right.mpr ⟨h.gap, fun _ => hi⟩ }

theorem Opened.extend (h : Opened f max i acc s last) (hi : isScalar i = true) (hfi : f i = true) :
    Opened f max (i + 1) acc s i :=
  { h with
    le := Nat.le_trans h.le (Nat.le_of_lt h.lt)
    lt := Nat.lt_succ_self i
    scalar := hi
    sat := Nat.forall_lt_succ_right.mpr ⟨h.sat, fun _ _ => hfi⟩
    gap := fun _ hc hic => absurd (Nat.le_of_lt_succ hc) (Nat.not_le_of_lt hic) }

theorem Opened.flush (h : Opened f max i acc s last) (hlm : last ≤ max) :
    Canon max ((s, last) :: acc).reverse ∧
    ∀ c, c < i → isScalar c = true → (f c = true ↔ covers ((s, last) :: acc) c) := by
  refine ⟨?_, fun c hci hc => ?_⟩
  · rw [List.reverse_cons]
    exact canon_snoc max s last h.start h.scalar h.le hlm _ h.closed.canon
      fun p hp => h.closed.sep p (List.mem_reverse.mp hp)
  · rw [covers_cons]
    by_cases hcs : c < s
    · rw [h.closed.cov c hcs hc]
      exact ⟨Or.inr, fun h' => h'.elim (fun hh => absurd hh.1 (Nat.not_le_of_lt hcs)) id⟩
    · have hsc : s ≤ c := Nat.le_of_not_lt hcs
      -- `c` is a scalar, so it is not in the gap after `last`
      have hcl : c ≤ last := Nat.le_of_not_lt fun hlc =>
        nomatch (h.gap c hci hlc).symm.trans hc
      exact ⟨fun _ => Or.inl ⟨hsc, hcl⟩, fun _ => h.sat c hci hsc hc⟩

theorem Opened.close (h : Opened f max i acc s last) (him : i ≤ max) (hi : isScalar i = true) (hfi : f i = false) :
    Closed f max (i + 1) ((s, last) :: acc) := by
  obtain ⟨hcanon, hcov⟩ := h.flush (Nat.le_trans (Nat.le_of_lt h.lt) him)
  refine .succ hcanon (fun p hp => nextScalar_le p.2 i ?_ hi) hcov fun _ => hfi
  rcases List.mem_cons.mp hp with rfl | hp
  · exact h.lt
  · exact Nat.lt_trans (Nat.lt_trans (lt_nextScalar p.2) (h.closed.sep p hp)) (Nat.lt_of_le_of_lt h.le h.lt)

theorem genLoop_skip (hi : isScalar i = false) :
    genLoop f (fuel + 1) i acc cur last = genLoop f fuel (i + 1) acc cur last := by
  show (if !isScalar i then _ else _) = _
  rw [hi]
  rfl

theorem genLoop_hit (hi : isScalar i = true) (hfi : f i = true) :
    genLoop f (fuel + 1) i acc cur last = genLoop f fuel (i + 1) acc (some (cur.getD i)) i := by
  show (if !isScalar i then _ else if f i then _ else _) = _
  rw [hi, hfi]
  cases cur <;> rfl

theorem genLoop_miss (hi : isScalar i = true) (hfi : f i = false) :
    genLoop f (fuel + 1) i acc cur last =
      genLoop f fuel (i + 1) (match cur with | some s => (s, last) :: acc | none => acc) none i := by
  show (if !isScalar i then _ else if f i then _ else _) = _
  rw [hi, hfi]
  cases cur <;> rfl

theorem genLoop_post (f : Nat → Bool) (max : Nat) :
    ∀ (fuel i : Nat) (acc : List (Nat × Nat)) (cur : Option Nat) (last : Nat),
      i + fuel = max + 1 → GenInv f max i acc last cur → Post f max (genLoop f fuel i acc cur last) := by
  intro fuel
  induction fuel with
  | zero =>
    rintro _ acc cur last rfl h
    cases cur with
    | none => exact ⟨h.canon, fun c hcm hc => (h.cov c (Nat.lt_succ_of_le hcm) hc).trans (covers_reverse _ c).symm⟩
    | some s =>
      obtain ⟨hcanon, hcov⟩ := h.flush (Nat.le_of_lt_succ h.lt)
      exact ⟨hcanon, fun c hcm hc => (hcov c (Nat.lt_succ_of_le hcm) hc).trans (covers_reverse _ c).symm⟩
  | succ fuel ih =>
    intro i acc cur last hif h
    have hif' : i + 1 + fuel = max + 1 := (Nat.add_right_comm i 1 fuel).trans hif
    have him : i ≤ max :=
      Nat.le_of_lt_succ (Nat.lt_of_lt_of_eq (Nat.lt_add_of_pos_right (Nat.succ_pos fuel)) hif)
    cases hi : isScalar i with
    | false =>
      rw [genLoop_skip hi]
      refine ih _ _ _ _ hif' ?_
      cases cur with
      | none => exact Closed.skip h fun hs => nomatch hi.symm.trans hs
      | some s => exact Opened.skip h hi
    | true =>
      cases hfi : f i with
      | true =>
        rw [genLoop_hit hi hfi]
        refine ih _ _ _ _ hif' ?_
        cases cur with
        | none => exact Closed.opened h hi hfi
        | some s => exact Opened.extend h hi hfi
      | false =>
        rw [genLoop_miss hi hfi]
        refine ih _ _ _ _ hif' ?_
        cases cur with
        | none => exact Closed.skip h fun _ => hfi
        | some s => exact Opened.close h him hi hfi

end

theorem generateRanges_post (f : Nat → Bool) (max : Nat) : Post f max (generateRanges f max) :=
  genLoop_post f max (max + 1) 0 [] none 0 (Nat.zero_add _)
    ⟨trivial, fun _ hp => (nomatch hp), fun c hc _ => absurd hc (Nat.not_lt_zero c)⟩

theorem generateRanges_canon (f : Nat → Bool) (max : Nat) : Canon max (generateRanges f max) :=
  (generateRanges_post f max).1

theorem generateRanges_covers (f : Nat → Bool) (max : Nat) (c : Nat) (hc : c ≤ max) (hs : isScalar c = true) :
    f c = true ↔ covers (generateRanges f max) c :=
  (generateRanges_post f max).2 c hc hs

section
variable {max s e : Nat} {r : List (Nat × Nat)} (h : Canon max ((s, e) :: r))
include h

theorem canon_tail_gt {c : Nat} (hc : covers r c) : nextScalar e < c :=
  let ⟨p, hp, hpc, _⟩ := hc
  Nat.lt_of_lt_of_le (h.2.2.2.2.1 p hp) hpc

theorem canon_covers_ge (c : Nat) (hc : covers ((s, e) :: r) c) : s ≤ c :=
  ((covers_cons _ _ _).mp hc).elim (·.1) fun hc =>
    Nat.le_of_lt (Nat.lt_of_le_of_lt h.2.2.1 (Nat.lt_trans (lt_nextScalar e) (canon_tail_gt h hc)))

theorem canon_covers_head : s ≤ max ∧ isScalar s = true ∧ covers ((s, e) :: r) s :=
  ⟨Nat.le_trans h.2.2.1 h.2.2.2.1, h.1, (covers_cons _ _ _).mpr (Or.inl ⟨Nat.le_refl _, h.2.2.1⟩)⟩

end

theorem canon_start_le {max s1 e1 s2 e2 : Nat} {r1 r2 : List (Nat × Nat)}
    (h1 : Canon max ((s1, e1) :: r1)) (h2 : Canon max ((s2, e2) :: r2))
    (h : ∀ c, c ≤ max → isScalar c = true → covers ((s1, e1) :: r1) c → covers ((s2, e2) :: r2) c) :
    s2 ≤ s1 :=
  have ⟨hm, hs, hc⟩ := canon_covers_head h1
  canon_covers_ge h2 s1 (h s1 hm hs hc)

theorem canon_end_le {max s e1 e2 : Nat} {r1 r2 : List (Nat × Nat)}
    (h1 : Canon max ((s, e1) :: r1)) (h2 : Canon max ((s, e2) :: r2))
    (h : ∀ c, c ≤ max → isScalar c = true → covers ((s, e2) :: r2) c → covers ((s, e1) :: r1) c) :
    e2 ≤ e1 := by
  apply Nat.le_of_not_lt
  intro hlt
  -- otherwise the scalar after `e1` lies in the head of the second list but in no range of the first
  have hle := nextScalar_le e1 e2 hlt h2.2.1
  have hgt := lt_nextScalar e1
  have hcov : covers ((s, e2) :: r2) (nextScalar e1) :=
    (covers_cons _ _ _).mpr (Or.inl ⟨Nat.le_trans h1.2.2.1 (Nat.le_of_lt hgt), hle⟩)
  rcases (covers_cons _ _ _).mp
    (h _ (Nat.le_trans hle h2.2.2.2.1) (isScalar_nextScalar e1 h1.2.1) hcov) with hc | hc
  · exact Nat.not_le_of_lt hgt hc.2
  · exact Nat.lt_irrefl _ (canon_tail_gt h1 hc)

theorem canon_tail_covers {max s e : Nat} {r1 r2 : List (Nat × Nat)}
    (h1 : Canon max ((s, e) :: r1)) (c : Nat)
    (h : covers ((s, e) :: r1) c → covers ((s, e) :: r2) c) (hc : covers r1 c) : covers r2 c :=
  ((covers_cons _ _ _).mp (h ((covers_cons _ _ _).mpr (Or.inr hc)))).elim
    (fun hc' => absurd hc'.2 (Nat.not_le_of_lt (Nat.lt_trans (lt_nextScalar e) (canon_tail_gt h1 hc))))
    id

theorem canon_ext (max : Nat) (l1 l2 : List (Nat × Nat)) (h1 : Canon max l1) (h2 : Canon max l2)
    (h : ∀ c, c ≤ max → isScalar c = true → (covers l1 c ↔ covers l2 c)) : l1 = l2 := by
  induction l1 generalizing l2 with
  | nil =>
    cases l2 with
    | nil => rfl
    | cons q r2 =>
      obtain ⟨s, e⟩ := q
      have ⟨hm, hs, hc⟩ := canon_covers_head h2
      exact absurd ((h s hm hs).mpr hc) (covers_nil s)
  | cons q1 r1 ih =>
    obtain ⟨s1, e1⟩ := q1
    cases l2 with
    | nil =>
      have ⟨hm, hs, hc⟩ := canon_covers_head h1
      exact absurd ((h s1 hm hs).mp hc) (covers_nil s1)
    | cons q2 r2 =>
      obtain ⟨s2, e2⟩ := q2
      obtain rfl : s1 = s2 := Nat.le_antisymm
        (canon_start_le h2 h1 fun c hc hsc => (h c hc hsc).mpr)
        (canon_start_le h1 h2 fun c hc hsc => (h c hc hsc).mp)
      obtain rfl : e1 = e2 := Nat.le_antisymm
        (canon_end_le h2 h1 fun c hc hsc => (h c hc hsc).mp)
        (canon_end_le h1 h2 fun c hc hsc => (h c hc hsc).mpr)
      rw [ih r2 h1.2.2.2.2.2 h2.2.2.2.2.2 fun c hc hsc =>
        ⟨canon_tail_covers h1 c (h c hc hsc).mp, canon_tail_covers h2 c (h c hc hsc).mpr⟩]

theorem generateRanges_unique (f : Nat → Bool) (max : Nat) (l : List (Nat × Nat)) (hl : Canon max l)
    (h : ∀ c, c ≤ max → isScalar c = true → (f c = true ↔ covers l c)) : l = generateRanges f max := by
  apply canon_ext max l (generateRanges f max) hl (generateRanges_canon f max)
  intro c hc hsc
  rw [← h c hc hsc]
  exact generateRanges_covers f max c hc hsc

/-- non-vacuity: a concrete run of the generator -/
example : generateRanges (fun c => c % 2 == 0 || c ≥ 5) 8 = [(0, 0), (2, 2), (4, 8)] := rfl

end Lexgen
