import LexgenModel.Proofs.CapstoneRun
import LexgenModel.Proofs.Interchange
import LexgenModel.Proofs.StaticIff
import LexgenModel.Proofs.SwitchTable
/-!
# Definitions with the same languages give the same lexer

Definitions that agree on everything but how their regexes are written (`DefEquiv`) compile to lexers that return the same items on
every input, with every action table (`run_congr`). The state NUMBERS of the two machines differ; everything a user can observe is equal.
-/
namespace Lexgen
variable {σ τ ε : Type}

structure DefEquiv (items1 items2 : LexerDef) : Prop where
  sets : hasRuleSets items1 = hasRuleSets items2
  names : (allRuleSets items1).map (·.1) = (allRuleSets items2).map (·.1)
  rules : ∀ i (h1 : i < (allRuleSets items1).length) (h2 : i < (allRuleSets items2).length),
    ∃ rs1 rs2,
      coreRules (allRuleSets items1)[i].2.1 (allRuleSets items1)[i].2.2.1 (allRuleSets items1)[i].2.2.2 = some rs1 ∧
      coreRules (allRuleSets items2)[i].2.1 (allRuleSets items2)[i].2.2.1 (allRuleSets items2)[i].2.2.2 = some rs2 ∧
      RulesEquiv rs1 rs2
  ctxs : ∀ i w, den (specCtxAt items1 i) w ↔ den (specCtxAt items2 i) w

namespace RunCongr

/-- the names of the rule sets (`""` for the single unnamed one) -/
def setNames (items : LexerDef) : List String := (allRuleSets items).map (·.1)

/-- the name of the rule set that is active in a fresh lexer and after an `InvalidToken` -/
def initName (items : LexerDef) : String := if hasRuleSets items then "Init" else ""

/-- what the reference lexer needs to know about the numbers `switchTable` assigns to the rule-set names -/
structure NumOK (items : LexerDef) (cfg : Config σ τ ε) : Prop where
  act : ∀ name ∈ setNames items,
    activeSet items cfg (switchNum cfg name) = (allRuleSets items).find? (·.1 = name)
  zero : ∀ name ∈ setNames items, (switchNum cfg name = 0 ↔ name = initName items)
  initMem : initName items ∈ setNames items
  other : ∀ name, name ∉ setNames items → switchNum cfg name = 0

theorem numOK_unnamed (items : LexerDef) (c : Compiled) (h : compileLexer items = .ok c)
    (hrs : hasRuleSets items = false)
    (actions : Nat → Action σ τ ε) (width : Nat → Nat) (input : Option (List Nat)) :
    NumOK items (c.config actions width input) := by
  have hent : c.entries = [] := (compileLexer_unnamed_core items c h hrs).2.1
  have hsw : ∀ name, switchNum (c.config actions width input) name = 0 := fun name =>
    switchNum_of_not_mem _ fun e (he : (name, e) ∈ c.entries) => by
      rw [hent] at he
      cases he
  have hnames : setNames items = [""] := by
    unfold setNames
    rw [allRuleSets_unnamed hrs]
    rfl
  have hinit : initName items = "" := by
    unfold initName
    rw [hrs]
    rfl
  refine ⟨fun name hn => ?_, fun name hn => ?_, ?_, fun name _ => hsw name⟩
  · rw [hnames, List.mem_singleton] at hn
    rw [hsw, activeSet_unnamed items _ hrs, allRuleSets_unnamed hrs, hn]
    rfl
  · rw [hnames, List.mem_singleton] at hn
    rw [hsw, hinit, hn]
    exact ⟨fun _ => rfl, fun _ => rfl⟩
  · rw [hnames, hinit]
    exact List.mem_singleton.mpr rfl

/-- With rule sets, names and entry states of the compiled machine correspond one to one; the switch table stores
the number of a name's state, and read backwards at that number it gives the name back. -/
theorem numOK_named (items : LexerDef) (c : Compiled) (h : compileLexer items = .ok c) (hok : DefOK items)
    (hrs : hasRuleSets items = true)
    (actions : Nat → Action σ τ ε) (width : Nat → Nat) (input : Option (List Nat)) :
    NumOK items (c.config actions width input) := by
  have hm := compileLexer_machineOK items c h hok actions width input
  obtain ⟨hnd, hinit0, hallE⟩ := compile_entries_named items c h hrs
  have hstate : ∀ {n e e'}, (n, e) ∈ c.entries → (n, e') ∈ c.entries → e' = e :=
    fun h1 h2 => names_unique hnd h2 h1
  have hname := entries_states_inj items c h hrs
  have hset : ∀ n e, (n, e) ∈ c.entries → n ∈ setNames items := by
    intro n e hne
    obtain ⟨rs, b, k, _, hmem, _⟩ := hallE n e hne
    exact List.mem_map.mpr ⟨(n, rs, b, k), hmem, rfl⟩
  have hmem : ∀ n, n ∈ setNames items → ∃ e, (n, e) ∈ c.entries := by
    intro n hn
    obtain ⟨x, hx, rfl⟩ := List.mem_map.mp hn
    rw [allRuleSets_named hrs] at hx
    obtain ⟨e, _, he, _⟩ := compileLexer_lang items c h x.1 x.2.1 x.2.2.1 x.2.2.2 hx
    exact ⟨e, he⟩
  have hsw : ∀ n e, (n, e) ∈ c.entries →
      switchNum (c.config actions width input) n = renumber (c.config actions width input).inl e :=
    fun n e he => switchNum_of_mem _ he fun e' he' => hstate he he'
  have hinit : initName items = "Init" := by
    unfold initName
    rw [hrs]
    rfl
  refine ⟨fun name hn => ?_, fun name hn => ?_, ?_, fun name hn => ?_⟩
  · obtain ⟨e, he⟩ := hmem name hn
    obtain ⟨nm, hnm, hact⟩ := activeSet_entry_num items _ hm hrs he
    rw [hsw name e he, hact, hname nm name e hnm he]
  · obtain ⟨e, he⟩ := hmem name hn
    rw [hsw name e he, hinit]
    constructor
    · intro h0
      have he0 : e = 0 := RefRefine.entry_of_state_zero _ hm e (Or.inr ⟨name, he⟩) h0
      exact hname name "Init" 0 (he0 ▸ he) hinit0
    · intro hn'
      subst hn'
      rw [hstate hinit0 he]
      exact NextProtocol.renumber_zero _
  · rw [hinit]
    exact hset "Init" 0 hinit0
  · exact switchNum_of_not_mem _ fun e he => hn (hset name e he)

theorem numOK_compile (items : LexerDef) (c : Compiled) (h : compileLexer items = .ok c) (hok : DefOK items)
    (actions : Nat → Action σ τ ε) (width : Nat → Nat) (input : Option (List Nat)) :
    NumOK items (c.config actions width input) := by
  cases hrs : hasRuleSets items with
  | true => exact numOK_named items c h hok hrs actions width input
  | false => exact numOK_unnamed items c h hrs actions width input

theorem find?_name {α : Type} (name : String) (l : List (String × α)) :
    l.find? (·.1 = name) = l[(l.map (·.1)).findIdx (· = name)]? := by
  rw [List.find?_eq_getElem?_findIdx, List.findIdx_map]
  rfl

structure Setup (items1 items2 : LexerDef) (cfg1 cfg2 : Config σ τ ε) : Prop where
  heq : DefEquiv items1 items2
  ok1 : NumOK items1 cfg1
  ok2 : NumOK items2 cfg2
  ne1 : DefNE items1
  ne2 : DefNE items2
  actions : cfg1.actions = cfg2.actions
  width : cfg1.width = cfg2.width
  input : cfg1.input = cfg2.input

section Rel
variable {items1 items2 : LexerDef} {cfg1 cfg2 : Config σ τ ε}

def NumRel (items1 : LexerDef) (cfg1 cfg2 : Config σ τ ε) (n1 n2 : Nat) : Prop :=
  ∃ name ∈ setNames items1, n1 = switchNum cfg1 name ∧ n2 = switchNum cfg2 name

theorem Setup.names (S : Setup items1 items2 cfg1 cfg2) : setNames items1 = setNames items2 := S.heq.names

theorem Setup.initName (S : Setup items1 items2 cfg1 cfg2) : initName items1 = initName items2 := by
  unfold RunCongr.initName
  rw [S.heq.sets]

theorem numRel_zero (S : Setup items1 items2 cfg1 cfg2) : NumRel items1 cfg1 cfg2 0 0 := by
  refine ⟨RunCongr.initName items1, S.ok1.initMem, ?_, ?_⟩
  · exact ((S.ok1.zero _ S.ok1.initMem).mpr rfl).symm
  · have hm : RunCongr.initName items1 ∈ setNames items2 := S.names ▸ S.ok1.initMem
    exact ((S.ok2.zero _ hm).mpr S.initName).symm

theorem numRel_switch (S : Setup items1 items2 cfg1 cfg2) (r : String) :
    NumRel items1 cfg1 cfg2 (switchNum cfg1 r) (switchNum cfg2 r) := by
  by_cases hr : r ∈ setNames items1
  · exact ⟨r, hr, rfl, rfl⟩
  · have hr2 : r ∉ setNames items2 := S.names ▸ hr
    rw [S.ok1.other r hr, S.ok2.other r hr2]
    exact numRel_zero S

theorem numRel_zero_iff (S : Setup items1 items2 cfg1 cfg2) {n1 n2 : Nat} (h : NumRel items1 cfg1 cfg2 n1 n2) :
    n1 = 0 ↔ n2 = 0 := by
  obtain ⟨name, hn, rfl, rfl⟩ := h
  have hn2 : name ∈ setNames items2 := S.names ▸ hn
  rw [S.ok1.zero name hn, S.ok2.zero name hn2, S.initName]

theorem numRel_active (S : Setup items1 items2 cfg1 cfg2) {n1 n2 : Nat} (h : NumRel items1 cfg1 cfg2 n1 n2) :
    ∃ x1 x2 rs1 rs2, activeSet items1 cfg1 n1 = some x1 ∧ activeSet items2 cfg2 n2 = some x2 ∧
      coreRules x1.2.1 x1.2.2.1 x1.2.2.2 = some rs1 ∧ coreRules x2.2.1 x2.2.2.1 x2.2.2.2 = some rs2 ∧
      RulesEquiv rs1 rs2 ∧ (∀ r ∈ rs1, NoEmptyPieces r.re) ∧ (∀ r ∈ rs2, NoEmptyPieces r.re) := by
  obtain ⟨name, hn, rfl, rfl⟩ := h
  have hn2 : name ∈ setNames items2 := S.names ▸ hn
  -- both definitions find the rule set at the position of `name` in the common list of names
  have h1 := List.findIdx_lt_length_of_exists (p := (· = name)) ⟨name, hn, decide_eq_true rfl⟩
  have h2 := h1
  unfold setNames at h1 h2
  rw [List.length_map] at h1
  rw [S.heq.names, List.length_map, ← S.heq.names] at h2
  obtain ⟨rs1, rs2, c1, c2, hre⟩ := S.heq.rules _ h1 h2
  refine ⟨_, _, rs1, rs2, ?_, ?_, c1, c2, hre, ?_, ?_⟩
  · rw [S.ok1.act name hn, find?_name, List.getElem?_eq_getElem h1]
  · rw [S.ok2.act name hn2, find?_name, ← S.heq.names, List.getElem?_eq_getElem h2]
  · exact S.ne1 _ _ _ _ (List.getElem_mem h1) rs1 c1
  · exact S.ne2 _ _ _ _ (List.getElem_mem h2) rs2 c2

/-- equal in everything but the state numbers (and the saved match, which the reference lexer never reads);
the numbers of the active rule sets name the same rule set -/
structure PreRel (items1 : LexerDef) (cfg1 cfg2 : Config σ τ ε) (st1 st2 : LState σ) : Prop where
  done : st1.done = st2.done
  user : st1.user = st2.user
  iter : st1.iter = st2.iter
  curStart : st1.curStart = st2.curStart
  curEnd : st1.curEnd = st2.curEnd
  num : NumRel items1 cfg1 cfg2 st1.initial st2.initial

/-- `PreRel` at a lexeme start: `__state = __initial_state` on both sides -/
structure StRel (items1 : LexerDef) (cfg1 cfg2 : Config σ τ ε) (st1 st2 : LState σ) : Prop where
  pre : PreRel items1 cfg1 cfg2 st1 st2
  s1 : st1.state = st1.initial
  s2 : st2.state = st2.initial

theorem StRel.obs {st1 st2 : LState σ} (h : StRel items1 cfg1 cfg2 st1 st2) : st1.obs = st2.obs := by
  unfold LState.obs
  rw [h.pre.done, h.pre.user, h.pre.iter, h.pre.curStart, h.pre.curEnd]

theorem advanceBy_rel (S : Setup items1 items2 cfg1 cfg2) {st1 st2 : LState σ} (h : PreRel items1 cfg1 cfg2 st1 st2)
    (k : Nat) :
    (advanceBy cfg1.width st1 k).iter = (advanceBy cfg2.width st2 k).iter ∧
    (advanceBy cfg1.width st1 k).curEnd = (advanceBy cfg2.width st2 k).curEnd := by
  unfold advanceBy
  rw [h.iter, h.curEnd, S.width]
  exact ⟨rfl, rfl⟩

theorem matchState_rel (S : Setup items1 items2 cfg1 cfg2) {st1 st2 : LState σ} (h : PreRel items1 cfg1 cfg2 st1 st2)
    (n : Nat) (v : Bool) :
    PreRel items1 cfg1 cfg2 (matchState cfg1.width st1 n v 0) (matchState cfg2.width st2 n v 0) :=
  ⟨rfl, h.user, (advanceBy_rel S h n).1, h.curStart, (advanceBy_rel S h n).2, h.num⟩

theorem errState_rel (S : Setup items1 items2 cfg1 cfg2) {st1 st2 : LState σ} (h : PreRel items1 cfg1 cfg2 st1 st2)
    (res1 res2 : List Regex) (he : errAdvance res1 st1.iter = errAdvance res2 st2.iter) :
    StRel items1 cfg1 cfg2 (errState cfg1.width res1 st1) (errState cfg2.width res2 st2) := by
  unfold errState
  rw [he]
  -- with `errAdvance` in sight the unifier, comparing `st1` with the advanced state field by field, unfolds it before it gives up
  generalize errAdvance res2 st2.iter = p
  have ha := advanceBy_rel S h p.1
  exact ⟨⟨rfl, h.user, ha.1, ha.2, ha.2, numRel_zero S⟩, rfl, rfl⟩

inductive OutRel (items1 : LexerDef) (cfg1 cfg2 : Config σ τ ε) : StepOut σ τ ε → StepOut σ τ ε → Prop
  | ret (i : Option (Item τ ε)) {s1 s2 : LState σ} :
    StRel items1 cfg1 cfg2 s1 s2 → OutRel items1 cfg1 cfg2 (.ret i s1) (.ret i s2)
  | cont {s1 s2 : LState σ} : StRel items1 cfg1 cfg2 s1 s2 → OutRel items1 cfg1 cfg2 (.cont s1) (.cont s2)

theorem mkView_rel (S : Setup items1 items2 cfg1 cfg2) {st1 st2 : LState σ} (h : PreRel items1 cfg1 cfg2 st1 st2)
    (a : Nat) : mkView cfg1 a st1 = mkView cfg2 a st2 := by
  unfold mkView
  rw [h.curStart, h.curEnd, h.iter, h.user, S.input]

theorem callSt_rel (S : Setup items1 items2 cfg1 cfg2) {st1 st2 : LState σ} (h : PreRel items1 cfg1 cfg2 st1 st2)
    {ρ : Type} (eff : Effect σ ρ) (cs : Loc) :
    StRel items1 cfg1 cfg2 (callSt cfg1 eff st1 cs) (callSt cfg2 eff st2 cs) := by
  refine ⟨⟨h.done, rfl, h.iter, rfl, h.curEnd, ?_⟩, rfl, rfl⟩
  show NumRel items1 cfg1 cfg2 (eff.switchTo.elim st1.initial (switchNum cfg1)) (eff.switchTo.elim st2.initial (switchNum cfg2))
  cases eff.switchTo with
  | none => exact h.num
  | some r => exact numRel_switch S r

theorem callAction_rel (S : Setup items1 items2 cfg1 cfg2) {st1 st2 : LState σ} (h : PreRel items1 cfg1 cfg2 st1 st2)
    (a : Nat) : OutRel items1 cfg1 cfg2 (callAction cfg1 a st1) (callAction cfg2 a st2) := by
  have he : (cfg1.actions a).run (mkView cfg1 a st1) = (cfg2.actions a).run (mkView cfg2 a st2) := by
    rw [mkView_rel S h a, S.actions]
  rw [callAction_spec cfg1 a st1 he, callAction_spec cfg2 a st2 rfl, h.curStart, h.curEnd]
  generalize (cfg2.actions a).run (mkView cfg2 a st2) = eff
  cases eff.res with
  | none => exact .cont (callSt_rel S h eff _)
  | some r =>
    cases r with
    | ok t => exact .ret _ (callSt_rel S h eff _)
    | error x => exact .ret _ (callSt_rel S h eff _)

theorem specLoop_rel (S : Setup items1 items2 cfg1 cfg2) (ctx1 ctx2 : Nat → Regex)
    (hc : ∀ i rest, CtxLang (ctx1 i) rest ↔ CtxLang (ctx2 i) rest) :
    ∀ (fuel : Nat) (st1 st2 : LState σ), StRel items1 cfg1 cfg2 st1 st2 →
      StepRel (StRel items1 cfg1 cfg2) (specLoop items1 cfg1 ctx1 fuel st1) (specLoop items2 cfg2 ctx2 fuel st2) := by
  intro fuel
  induction fuel with
  | zero =>
    intro st1 st2 h
    unfold specLoop
    rw [h.pre.done]
    cases st2.done with
    | true => exact .some none h
    | false => exact .none
  | succ fuel ih =>
    intro st1 st2 h
    cases hd2 : st2.done with
    | true =>
      rw [specLoop_done _ _ _ _ _ (h.pre.done.trans hd2), specLoop_done _ _ _ _ _ hd2]
      exact .some none h
    | false =>
      have hd1 : st1.done = false := h.pre.done.trans hd2
      obtain ⟨x1, x2, rs1, rs2, ha1, ha2, hr1, hr2, hre, hn1, hn2⟩ := numRel_active S h.pre.num
      have hsel : selectRef rs1 ctx1 st1.iter = selectRef rs2 ctx2 st2.iter := by
        rw [h.pre.iter]
        exact selectRef_congr rs1 rs2 ctx1 ctx2 hre hc st2.iter
      cases hs2 : selectRef rs2 ctx2 st2.iter with
      | some p =>
        obtain ⟨n, a, v⟩ := p
        rw [specLoop_selected items1 cfg1 ctx1 fuel st1 x1 rs1 n a v hd1 ha1 hr1 (hsel.trans hs2),
          specLoop_selected items2 cfg2 ctx2 fuel st2 x2 rs2 n a v hd2 ha2 hr2 hs2]
        have hcall := callAction_rel S (matchState_rel S h.pre n v) a
        generalize callAction cfg1 a _ = o1, callAction cfg2 a _ = o2 at hcall ⊢
        cases hcall with
        | ret i hs => exact .some i hs
        | cont hs => exact ih _ _ hs
      | none =>
        rw [specLoop_unselected items1 cfg1 ctx1 fuel st1 x1 rs1 hd1 ha1 hr1 (hsel.trans hs2),
          specLoop_unselected items2 cfg2 ctx2 fuel st2 x2 rs2 hd2 ha2 hr2 hs2]
        have hz : st1.state = 0 ↔ st2.state = 0 := by
          rw [h.s1, h.s2]
          exact numRel_zero_iff S h.pre.num
        by_cases hcond : st2.iter = [] ∧ st2.state = 0
        · rw [if_pos hcond, if_pos ⟨h.pre.iter.trans hcond.1, hz.mpr hcond.2⟩]
          exact .some none ⟨⟨rfl, h.pre.user, h.pre.iter, h.pre.curStart, h.pre.curEnd, h.pre.num⟩, h.s1, h.s2⟩
        · rw [if_neg hcond, if_neg fun hx => hcond ⟨h.pre.iter.symm.trans hx.1, hz.mp hx.2⟩, h.pre.curStart]
          refine .some _ (errState_rel S h.pre _ _ ?_)
          rw [h.pre.iter]
          exact errAdvance_congr rs1 rs2 hre hn1 hn2 st2.iter

theorem specRunN_rel (S : Setup items1 items2 cfg1 cfg2)
    (hc : ∀ i rest, CtxLang (specCtxAt items1 i) rest ↔ CtxLang (specCtxAt items2 i) rest) :
    ∀ (n : Nat) (st1 st2 : LState σ), StRel items1 cfg1 cfg2 st1 st2 →
      (specRunN items1 cfg1 n st1).1 = (specRunN items2 cfg2 n st2).1 ∧
      StRel items1 cfg1 cfg2 (specRunN items1 cfg1 n st1).2 (specRunN items2 cfg2 n st2).2 :=
  (specRunN_run items1 cfg1).rel (specRunN_run items2 cfg2) _ fun st1 st2 h => by
    unfold specNextFull specNext
    rw [h.pre.iter]
    exact specLoop_rel S _ _ hc _ st1 st2 h

end Rel
end RunCongr

/-- Two well-formed definitions that `DefEquiv` cannot tell apart (same rule-set names and, rule by rule, same action, same
right-context number, same denotation of regex and right contexts) compile to lexers whose models return, from a fresh lexer,
the same items after any number of calls of `next()`, for every action table and input, and end in the same observable state
(`LState.obs`: everything but the state numbers and the saved match). Both runs are runs of the executable reference lexer
(`run_fresh_eq_spec`), and two of those preserve `RunCongr.StRel`. -/
theorem run_congr (items1 items2 : LexerDef) (c1 c2 : Compiled)
    (h1 : compileLexer items1 = .ok c1) (h2 : compileLexer items2 = .ok c2)
    (hok1 : DefOK items1) (hok2 : DefOK items2) (hne1 : DefNE items1) (hne2 : DefNE items2)
    (heq : DefEquiv items1 items2)
    (actions : Nat → Action σ τ ε) (width : Nat → Nat) (input : Option (List Nat)) (user : σ) (chars : List Nat) (n : Nat) :
    (runN (c1.config actions width input) n (initState user chars)).1 = (runN (c2.config actions width input) n (initState user chars)).1 ∧
    (runN (c1.config actions width input) n (initState user chars)).2.obs = (runN (c2.config actions width input) n (initState user chars)).2.obs := by
  have S : RunCongr.Setup items1 items2 (c1.config actions width input) (c2.config actions width input) :=
    ⟨heq, RunCongr.numOK_compile items1 c1 h1 hok1 actions width input,
      RunCongr.numOK_compile items2 c2 h2 hok2 actions width input, hne1, hne2, rfl, rfl, rfl⟩
  rw [run_fresh_eq_spec items1 c1 h1 hok1 hne1, run_fresh_eq_spec items2 c2 h2 hok2 hne2]
  have hc : ∀ i rest, CtxLang (specCtxAt items1 i) rest ↔ CtxLang (specCtxAt items2 i) rest :=
    fun i rest => ctxLang_congr (heq.ctxs i) rest
  have h0 : RunCongr.StRel items1 (c1.config actions width input) (c2.config actions width input)
      (initState user chars) (initState user chars) :=
    ⟨⟨rfl, rfl, rfl, rfl, rfl, RunCongr.numRel_zero S⟩, rfl, rfl⟩
  obtain ⟨e1, e2⟩ := RunCongr.specRunN_rel S hc n _ _ h0
  exact ⟨e1, e2.obs⟩

/-- Special case: the two definitions have the same rule-set names, literally the same rules after variable substitution
(`coreRules`), rule set by rule set, and the same right contexts. -/
theorem run_congr_of_core_eq (items1 items2 : LexerDef) (c1 c2 : Compiled)
    (h1 : compileLexer items1 = .ok c1) (h2 : compileLexer items2 = .ok c2)
    (hok1 : DefOK items1) (hok2 : DefOK items2) (hne1 : DefNE items1) (hne2 : DefNE items2)
    (hsets : hasRuleSets items1 = hasRuleSets items2)
    (hnames : (allRuleSets items1).map (·.1) = (allRuleSets items2).map (·.1))
    (hrules : ∀ i (h1 : i < (allRuleSets items1).length) (h2 : i < (allRuleSets items2).length),
      coreRules (allRuleSets items1)[i].2.1 (allRuleSets items1)[i].2.2.1 (allRuleSets items1)[i].2.2.2 =
      coreRules (allRuleSets items2)[i].2.1 (allRuleSets items2)[i].2.2.1 (allRuleSets items2)[i].2.2.2)
    (hctxs : specCtxAt items1 = specCtxAt items2)
    (actions : Nat → Action σ τ ε) (width : Nat → Nat) (input : Option (List Nat)) (user : σ) (chars : List Nat) (n : Nat) :
    (runN (c1.config actions width input) n (initState user chars)).1 = (runN (c2.config actions width input) n (initState user chars)).1 ∧
    (runN (c1.config actions width input) n (initState user chars)).2.obs = (runN (c2.config actions width input) n (initState user chars)).2.obs := by
  apply run_congr items1 items2 c1 c2 h1 h2 hok1 hok2 hne1 hne2 ?_ actions width input user chars n
  refine ⟨hsets, hnames, fun i l1 l2 => ?_, fun i w => by rw [hctxs]⟩
  obtain ⟨_, rs, _, _, hrs, _⟩ := compile_realises items1 c1 h1 _ _ _ _ (List.getElem_mem l1)
  exact ⟨rs, rs, hrs, (hrules i l1 l2) ▸ hrs, RulesEquiv.refl rs⟩

/-! ## Non-vacuity: a `let` variable and `+`, against the same rule written out -/

namespace RunCongr

/-- `rule Init { let d = 'b'; 'a' $d+ = 0, }` -/
def exLet : LexerDef :=
  [ .ruleSet "Init" [ .binding "d" (.chr 98), .rule { re := .cat (.chr 97) (.plus (.var "d")), ctx := none, rhs := 0 } ] ]

/-- `rule Init { 'a' 'b' 'b'* = 0, }` -/
def exPlain : LexerDef :=
  [ .ruleSet "Init" [ .rule { re := .cat (.chr 97) (.cat (.chr 98) (.star (.chr 98))), ctx := none, rhs := 0 } ] ]

theorem exLet_sets : allRuleSets exLet =
    [("Init", [ .binding "d" (.chr 98), .rule { re := .cat (.chr 97) (.plus (.var "d")), ctx := none, rhs := 0 } ], [], 0)] := rfl

theorem exPlain_sets : allRuleSets exPlain =
    [("Init", [ .rule { re := .cat (.chr 97) (.cat (.chr 98) (.star (.chr 98))), ctx := none, rhs := 0 } ], [], 0)] := rfl

theorem exLet_core : coreRules [ .binding "d" (.chr 98), .rule { re := .cat (.chr 97) (.plus (.var "d")), ctx := none, rhs := 0 } ] [] 0 =
    some [{ re := .cat (.chr 97) (.plus (.chr 98)), ctx := none, value := 0 }] := by
  simp only [coreRules, inlineVars, Bindings.find?, bind, Except.bind, pure, Except.pure, List.nil_append, List.length_cons,
    List.length_nil, if_true, Option.map_some]

theorem exPlain_core : coreRules [ .rule { re := .cat (.chr 97) (.cat (.chr 98) (.star (.chr 98))), ctx := none, rhs := 0 } ] [] 0 =
    some [{ re := .cat (.chr 97) (.cat (.chr 98) (.star (.chr 98))), ctx := none, value := 0 }] := by
  simp only [coreRules, inlineVars, bind, Except.bind, pure, Except.pure, List.length_nil, Option.map_some]

theorem exLet_equiv : DefEquiv exLet exPlain := by
  refine ⟨rfl, rfl, fun i l1 l2 => ?_, fun i w => ?_⟩
  · cases Nat.lt_one_iff.mp l1
    refine ⟨_, _, exLet_core, exPlain_core, rfl, fun j j1 j2 w => ?_⟩
    cases Nat.lt_one_iff.mp j1
    exact Iff.rfl
  · exact Iff.rfl

/-! Both definitions satisfy the static conditions, so they compile (`compileLexer_ok_iff`). -/

theorem exLet_compiles : ∃ c, compileLexer exLet = .ok c := by
  refine (compileLexer_ok_iff exLet ?_).mpr ((StaticIff.staticOK_iff_scan exLet).mpr ⟨by decide, ?_⟩)
  · simp only [ItemsPiecesOK, exLet, List.mem_cons, List.not_mem_nil, or_false, rbPiecesOK, forall_eq, forall_eq_or_imp,
      regexPiecesOK, and_self, reduceCtorEq, false_implies, implies_true]
  · simp only [exLet, StaticIff.AllSplits, StaticIff.QTop, ruleSetNames, List.filterMap_nil, imp_self, List.not_mem_nil, not_false_eq_true,
      topBindings, StaticIff.ruleSetOK_iff_scan, StaticIff.QRS, boundNames, localBindings, List.append_nil, List.map_nil, RuleElaborates,
      Elaborates, List.nil_append, Option.some.injEq, List.filterMap_cons_some, List.length_cons, List.length_nil,
      Nat.zero_add, Nat.reduceAdd, inlineVars, bind, Except.bind, Bindings.find?, ↓reduceIte, pure, Except.pure,
      Except.ok.injEq, exists_eq_left', ClassOK, and_self, reduceCtorEq, false_implies, implies_true]

theorem exPlain_compiles : ∃ c, compileLexer exPlain = .ok c := by
  refine (compileLexer_ok_iff exPlain ?_).mpr ((StaticIff.staticOK_iff_scan exPlain).mpr ⟨by decide, ?_⟩)
  · simp only [ItemsPiecesOK, exPlain, List.mem_cons, List.not_mem_nil, or_false, rbPiecesOK, forall_eq, regexPiecesOK,
      and_self, reduceCtorEq, false_implies, implies_true]
  · simp only [exPlain, StaticIff.AllSplits, StaticIff.QTop, ruleSetNames, List.filterMap_nil, imp_self, List.not_mem_nil, not_false_eq_true,
      topBindings, StaticIff.ruleSetOK_iff_scan, StaticIff.QRS, RuleElaborates, Elaborates, localBindings, List.append_nil, List.length_nil,
      Nat.zero_add, inlineVars, bind, Except.bind, pure, Except.pure, Except.ok.injEq, exists_eq_left', ClassOK, and_self,
      reduceCtorEq, false_implies, implies_true]

theorem ex_nonNull : ¬ den (.cat (.chr 97) (.plus (.chr 98))) [] := by
  simp only [den]
  rintro ⟨u, v, huv, hu, _⟩
  subst hu
  cases huv

theorem exLet_ok : DefOK exLet :=
  defOK_of_single (cres := []) exLet_sets exLet_core rfl
    (List.forall_mem_singleton.2 ⟨by simp [regexPiecesOK], by simp [tailEoi, eoiFree], ex_nonNull⟩) nofun

theorem exPlain_ok : DefOK exPlain :=
  defOK_of_single (cres := []) exPlain_sets exPlain_core rfl
    (List.forall_mem_singleton.2 ⟨by simp [regexPiecesOK], by simp [tailEoi, eoiFree], ex_nonNull⟩) nofun

theorem exLet_ne : DefNE exLet :=
  defNE_of_single exLet_sets exLet_core (List.forall_mem_singleton.2 (by simp [NoEmptyPieces]))

theorem exPlain_ne : DefNE exPlain :=
  defNE_of_single exPlain_sets exPlain_core (List.forall_mem_singleton.2 (by simp [NoEmptyPieces]))

/-- all hypotheses of `run_congr` hold together for the two example definitions: their lexers return the same items on every input -/
example (c1 c2 : Compiled) (h1 : compileLexer exLet = .ok c1) (h2 : compileLexer exPlain = .ok c2)
    (actions : Nat → Action σ τ ε) (width : Nat → Nat) (input : Option (List Nat)) (user : σ) (chars : List Nat) (n : Nat) :
    (runN (c1.config actions width input) n (initState user chars)).1 = (runN (c2.config actions width input) n (initState user chars)).1 :=
  (run_congr exLet exPlain c1 c2 h1 h2 exLet_ok exPlain_ok exLet_ne exPlain_ne exLet_equiv actions width input user chars n).1

end RunCongr

end Lexgen
