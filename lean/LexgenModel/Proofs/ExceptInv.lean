/-!
# When a step of an `Except` computation returns `ok`, and when `error`
-/
namespace Lexgen

theorem bind_eq_ok {ε α β : Type} {x : Except ε α} {f : α → Except ε β} {b : β} :
    (x >>= f) = .ok b ↔ ∃ a, x = .ok a ∧ f a = .ok b := by
  cases x with
  | error e => exact ⟨nofun, fun ⟨_, h, _⟩ => nomatch h⟩
  | ok a => exact ⟨fun h => ⟨a, rfl, h⟩, fun ⟨_, h, hf⟩ => by cases h; exact hf⟩

theorem bind_eq_error {ε α β : Type} {x : Except ε α} {f : α → Except ε β} {e : ε} :
    (x >>= f) = .error e ↔ x = .error e ∨ ∃ a, x = .ok a ∧ f a = .error e := by
  cases x with
  | error e' => exact ⟨fun h => .inl (by cases h; rfl), fun h => h.elim (fun h => by cases h; rfl) fun ⟨_, h, _⟩ => nomatch h⟩
  | ok a => exact ⟨fun h => .inr ⟨a, rfl, h⟩, fun h => h.elim nofun fun ⟨_, h, hf⟩ => by cases h; exact hf⟩

theorem guard_eq_ok {ε α : Type} {c : Bool} {e : ε} {a b : α} :
    (if c = true then Except.error e else Except.ok a) = .ok b ↔ c = false ∧ b = a := by
  cases c with
  | false => exact ⟨fun h => ⟨rfl, by cases h; rfl⟩, fun h => by rw [h.2]; rfl⟩
  | true => exact ⟨nofun, fun h => nomatch h.1⟩

theorem guard_eq_error {ε α : Type} {c : Bool} {e e' : ε} {a : α} :
    (if c = true then Except.error e else Except.ok a) = .error e' ↔ c = true ∧ e' = e := by
  cases c with
  | false => exact ⟨nofun, fun h => nomatch h.1⟩
  | true => exact ⟨fun h => ⟨rfl, by cases h; rfl⟩, fun h => by rw [h.2]; rfl⟩

end Lexgen
