import LexgenModel.Proofs.CandOrder
import LexgenModel.Proofs.NextMore
import LexgenModel.Proofs.Entries
/-!
# The model of the generated `next()` refines the reference lexer of the definition

Every call of the model of the generated `next()` from a `Ready` state is a step of the reference lexer `RefNext`
(`next_refines_ref`). The entries of the compiled machine are the entries of rule sets of the definition, and from them
the matches of the machine are language-level matches (`entry_ruleSet`): this turns a step of `NextSpec` into one of `RefNext`.
-/
namespace Lexgen
variable {σ τ ε : Type}

namespace RefRefine

theorem entry_ruleSet (items : LexerDef) (c : Compiled) (h : compileLexer items = .ok c) (hok : DefOK items)
    (ctxAt : Nat → Regex) (hnum : CtxNumbering items ctxAt)
    (actions : Nat → Action σ τ ε) (width : Nat → Nat) (input : Option (List Nat))
    (e : Nat) (he : IsEntry (c.config actions width input) e) :
    ∃ name rs b k rules,
      activeSet items (c.config actions width input) (renumber (c.config actions width input).inl e) =
        some (name, rs, b, k) ∧
      (name, rs, b, k) ∈ allRuleSets items ∧ IsEntryOf items c name e ∧
      coreRules rs b k = some rules ∧
      ∀ iter n a viaEoi,
        Cand (c.config actions width input) e iter n a viaEoi ↔ LangCand rules ctxAt iter n a viaEoi := by
  obtain ⟨⟨name, rs, b, k⟩, hact, hmem, hent⟩ := activeSet_of_isEntry items c h hok actions width input e he
  obtain ⟨e', rules, hent', _, hcore, hiff⟩ :=
    compile_cand_iff items c h hok ctxAt hnum name rs b k hmem actions width input
  obtain rfl := isEntryOf_unique h hent hent'
  exact ⟨name, rs, b, k, rules, hact, hmem, hent, hcore, hiff⟩

theorem entry_of_state_zero (cfg : Config σ τ ε) (hm : MachineOK cfg) (e : Nat) (he : IsEntry cfg e)
    (h : renumber cfg.inl e = 0) : e = 0 :=
  renumber_entry_inj cfg hm he (Or.inl rfl) (h.trans (NextProtocol.renumber_zero _).symm)

theorem refNext_of_spec (items : LexerDef) (c : Compiled) (ctxAt : Nat → Regex) (cfg : Config σ τ ε)
    (hm : MachineOK cfg)
    (HE : ∀ e, IsEntry cfg e →
      ∃ name rs b k rules, (name, rs, b, k) ∈ allRuleSets items ∧ IsEntryOf items c name e ∧
        coreRules rs b k = some rules ∧
        ∀ iter n a viaEoi, Cand cfg e iter n a viaEoi ↔ LangCand rules ctxAt iter n a viaEoi)
    {st : LState σ} {r : Option (Item τ ε) × LState σ} (h : NextSpec cfg st r) :
    Ready cfg st → RefNext items c ctxAt cfg st r := by
  -- the rule set that is active when the arm `s` is selected
  have hactive : ∀ {st : LState σ} {s : Nat}, Ready cfg st →
      dispatch (stateArms cfg.dfa cfg.inl) st.state = some s →
      ∃ name rs b k rules, (name, rs, b, k) ∈ allRuleSets items ∧ coreRules rs b k = some rules ∧
        ActiveIn items c cfg.inl st name ∧
        ∀ iter n a viaEoi, Cand cfg s iter n a viaEoi ↔ LangCand rules ctxAt iter n a viaEoi := by
    intro st s hr hs
    obtain ⟨he, hst⟩ := ready_arm hm hr hs
    obtain ⟨name, rs, b, k, rules, hmem, hent, hcore, hiff⟩ := HE s he
    exact ⟨name, rs, b, k, rules, hmem, hcore, ⟨hr.1, hr.2.1, s, hent, hst⟩, hiff⟩
  induction h with
  | done hd => exact fun _ => RefNext.done _ hd
  | @ret st s k a e item st' hd hs hb hc =>
    intro hr
    obtain ⟨name, rs, b, k', rules, hmem, hcore, hact, hiff⟩ := hactive hr hs
    exact RefNext.ret st name rs b k' rules k a e 0 item st' hd hmem hcore hact
      (hb.selects (hiff _)) hc
  | @cont st s k a e st1 r hd hs hb hc _ ih =>
    intro hr
    obtain ⟨name, rs, b, k', rules, hmem, hcore, hact, hiff⟩ := hactive hr hs
    exact RefNext.cont st name rs b k' rules k a e 0 st1 r hd hmem hcore hact
      (hb.selects (hiff _)) hc
      (ih (ready_of_cont hm hr hs hc))
  | @invalid st s hd hs hno hne =>
    intro hr
    obtain ⟨name, rs, b, k', rules, hmem, hcore, hact, hiff⟩ := hactive hr hs
    obtain ⟨he, hst⟩ := ready_arm hm hr hs
    exact RefNext.invalid st name rs b k' rules _ hd hmem hcore hact
      (hno.lang (hiff _))
      (fun ⟨hnil, hz⟩ => hne ⟨entry_of_state_zero cfg hm s he (hst ▸ hz), hnil⟩) (errResume_errSt cfg s st)
  | @eof st hd hs hno hnil =>
    intro hr
    obtain ⟨name, rs, b, k', rules, hmem, hcore, hact, hiff⟩ := hactive hr hs
    exact RefNext.eof st name rs b k' rules _ hd hmem hcore hact
      (hno.lang (hiff _)) hnil
      ((ready_arm hm hr hs).2.trans (NextProtocol.renumber_zero _)) rfl rfl

end RefRefine

/-- **Refinement.** For every well-formed definition the model compiles, every call of the model of the generated `next()` (generated state code, backtrack elision, saved matches, state numbering,
`lexgen_util::Lexer`) from a lexer state at a lexeme start is a step of the REFERENCE lexer of the definition (`RefNext`: language-level maximal munch + the semantic-action protocol). -/
theorem next_refines_ref (items : LexerDef) (c : Compiled) (h : compileLexer items = .ok c) (hok : DefOK items)
    (ctxAt : Nat → Regex) (hnum : CtxNumbering items ctxAt)
    (actions : Nat → Action σ τ ε) (width : Nat → Nat) (input : Option (List Nat))
    (st : LState σ) (hr : Ready (c.config actions width input) st)
    (r : Option (Item τ ε) × LState σ) (hn : next (c.config actions width input) st = some r) :
    RefNext items c ctxAt (c.config actions width input) st r := by
  have hm := compileLexer_machineOK items c h hok actions width input
  exact RefRefine.refNext_of_spec items c ctxAt (c.config actions width input) hm
    (fun e he =>
      let ⟨name, rs, b, k, rules, _, hrest⟩ := RefRefine.entry_ruleSet items c h hok ctxAt hnum actions width input e he
      ⟨name, rs, b, k, rules, hrest⟩)
    (next_spec hm hr.1 hn) hr

end Lexgen
