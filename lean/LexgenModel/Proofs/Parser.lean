import LexgenModel.Spec.Parser
/-!
# The regex parser inverts printing

* `good_all`: fuel monotonicity of the nine parse functions and adequacy of the fuel
  `4 * (consumed tokens) + 8`, in one induction.
* `parse_printsAs_partial`: every printing (`PrintsAs`) of a tree parses back to it. The statement
  without the junction condition `¬ DollarClash ts rest` is false.
* `parse_print`: the minimal printing is a printing, hence parses back.

Method: `∃ fuel` relations (`E`, `L0`, …) closed under the parser's steps thanks to monotonicity;
the induction on the printing proves, in continuation form (`Stmt`), that parsing `ts ++ rest` at
level `k` is the same as entering level `k`'s loop at `rest` with the printed tree as accumulator —
this is what makes the left-associative loops (`|`, juxtaposition, `#`, postfix) go through.
-/
namespace Lexgen
namespace ParserProofs

def Enough (f n c f' : Nat) : Prop := f ≤ f' ∨ 4 * n + c ≤ f'

/-- a function runs with one unit of fuel more than the ones it calls: what holds at `f' + 1` for every
`f'` that is enough for them holds at every fuel that is enough for it (which is not `0`) -/
theorem Enough.step {f n c : Nat} {P : Nat → Prop} (h : ∀ f', Enough f n c f' → P (f' + 1)) (f'' : Nat)
    (hf : Enough (f + 1) n (c + 1) f'') : P f'' := by
  cases f'' with
  | zero => exact (hf.elim (Nat.not_succ_le_zero _) (Nat.not_succ_le_zero _)).elim
  | succ f' => exact h f' (hf.imp Nat.le_of_succ_le_succ Nat.le_of_succ_le_succ)

/-- `d` tokens fewer pay for `4 * d` more in the constant -/
theorem Enough.weaken {f n c f' n1 c1 : Nat} (d : Nat) (h : Enough f n c f') (hn : n1 + d ≤ n)
    (hc : c1 ≤ 4 * d + c) : Enough f n1 c1 f' := by
  refine h.imp_right (Nat.le_trans ?_)
  have h4 := Nat.mul_le_mul_left 4 hn
  rw [Nat.mul_add] at h4
  exact Nat.le_trans (Nat.add_le_add_left hc _) (Nat.add_assoc .. ▸ Nat.add_le_add_right h4 c)

/-- `g` succeeding with fuel `f` has consumed `n ≥ lo` tokens, and succeeds alike with every fuel that
is at least `f` (monotonicity) or at least `4 * n + c` (adequacy: the fuel needed depends on what is
consumed, not on what follows it). -/
def Good {α : Type} (g : Nat → List Tok → Option (α × List Tok)) (c lo f : Nat) : Prop :=
  ∀ ts r rest, g f ts = some (r, rest) → ∃ n, lo ≤ n ∧ ts.length = rest.length + n ∧
    ∀ f', Enough f n c f' → g f' ts = some (r, rest)

theorem parseCharset_good (f : Nat) : Good parseCharset 1 1 f := by
  intro ts items rest h
  fun_induction parseCharset f ts generalizing items rest with
  | case1 | case4 | case6 => cases h
  | case2 n ts =>
    cases h
    exact ⟨1, Nat.le_refl _, rfl, Enough.step fun _ _ => rfl⟩
  | case3 f c c2 ts ih =>
    obtain ⟨⟨its, rst⟩, hc, ⟨⟩⟩ := Option.map_eq_some_iff.mp h
    obtain ⟨n, -, hl, hp⟩ := ih _ _ hc
    refine ⟨n + 3, Nat.le_add_left _ _, congrArg (· + 3) hl, Enough.step fun f' hf' => ?_⟩
    rw [parseCharset.eq_3, hp f' (hf'.weaken 3 (Nat.le_refl _) (by decide))]; rfl
  | case5 f c ts h1 h2 ih =>
    obtain ⟨⟨its, rst⟩, hc, ⟨⟩⟩ := Option.map_eq_some_iff.mp h
    obtain ⟨n, -, hl, hp⟩ := ih _ _ hc
    refine ⟨n + 1, Nat.le_add_left _ _, congrArg (· + 1) hl, Enough.step fun f' hf' => ?_⟩
    rw [parseCharset.eq_5 _ _ _ h1 h2, hp f' (hf'.weaken 1 (Nat.le_refl _) (by decide))]; rfl

theorem parse4_atom {f : Nat} {ts : List Tok} {r : Regex} {rest : List Tok}
    (h1 : ∀ l, ts ≠ .lparen :: l) (h2 : ∀ l, ts ≠ .lbracket :: l)
    (h : parse4 f ts = some (r, rest)) :
    rest.length < ts.length ∧ ∀ f', parse4 (f' + 1) ts = some (r, rest) := by
  revert h
  fun_cases parse4 f ts
  case case2 | case3 => exact absurd rfl (h1 _)
  case case10 => exact absurd rfl (h2 _)
  case case7 hdi hd hi => rintro ⟨⟩; exact ⟨Nat.lt_succ_self _, fun _ => parse4.eq_6 _ _ hdi hd hi⟩
  all_goals rintro ⟨⟩
  all_goals exact ⟨by simp +arith only [List.length_cons], fun _ => rfl⟩

theorem parse2Loop_length (r : Regex) (ts : List Tok) :
    ∃ m, ts.length = (parse2Loop r ts).2.length + m := by
  fun_induction parse2Loop r ts with
  | case1 r ts ih | case2 r ts ih | case3 r ts ih =>
    obtain ⟨m, hm⟩ := ih
    exact ⟨m + 1, congrArg (· + 1) hm⟩
  | case4 r ts => exact ⟨0, rfl⟩

/-- the bounds `4n+8 … 4n+1` for the eight mutually recursive functions, in the order of their calls -/
structure GoodAll (f : Nat) : Prop where
  p0 : Good parse0 8 1 f
  l0 : ∀ acc, Good (parse0Loop · acc) 7 0 f
  p1 : Good parse1 6 1 f
  l1 : ∀ acc, Good (parse1Loop · acc) 5 0 f
  p2 : Good parse2 4 1 f
  p3 : Good parse3 3 1 f
  l3 : ∀ acc, Good (parse3Loop · acc) 2 0 f
  p4 : Good parse4 1 1 f

abbrev Level := Nat → List Tok → Option (Regex × List Tok)

/-- the second argument is the tree built so far -/
abbrev Loop := Nat → Regex → List Tok → Option (Regex × List Tok)

/-- `g1`, then the loop `g2` on what `g1` returns, with `F` building the loop's accumulator: the shape
shared by `parse0`, `parse1`, `parse3` and by a round of each of their loops -/
def andThen (g1 : Level) (g2 : Loop) (F : Regex → Regex) : Level := fun f ts =>
  match g1 f ts with
  | none => none
  | some (r1, rest1) => g2 f (F r1) rest1

/-- The arithmetic of the bounds, once: `k` tokens were consumed before `g1` runs. -/
theorem Good.seq {g1 : Level} {g2 : Loop} {c1 c2 lo c k f : Nat}
    (h1 : Good g1 c1 lo f) (h2 : ∀ acc, Good (g2 · acc) c2 0 f)
    (hc1 : c1 ≤ 4 * k + c) (hc2 : c2 ≤ 4 * (lo + k) + c) (F : Regex → Regex) {ts r rest}
    (h : andThen g1 g2 F f ts = some (r, rest)) :
    ∃ n, lo ≤ n ∧ ts.length = rest.length + n ∧
      ∀ f', Enough f (n + k) c f' → andThen g1 g2 F f' ts = some (r, rest) := by
  unfold andThen at h ⊢
  cases hg1 : g1 f ts with
  | none => rw [hg1] at h; cases h
  | some p =>
    obtain ⟨r1, rest1⟩ := p
    rw [hg1] at h
    obtain ⟨n1, hn1, hl1, hp1⟩ := h1 _ _ _ hg1
    obtain ⟨m, -, hlm, hpm⟩ := h2 (F r1) rest1 r rest h
    refine ⟨m + n1, Nat.le_add_left_of_le hn1, by rw [hl1, hlm, Nat.add_assoc], fun f' hf => ?_⟩
    rw [hp1 f' (hf.weaken k (Nat.add_le_add_right (Nat.le_add_left n1 m) k) hc1)]
    exact hpm f' (hf.weaken (lo + k) (Nat.add_assoc m n1 k ▸
      Nat.add_le_add_left (Nat.add_le_add_right hn1 k) m) hc2)

theorem Good.head {g g1 : Level} {loop : Loop} {c f : Nat}
    (eq : ∀ ts f, g (f + 1) ts = andThen g1 loop id f ts)
    (h1 : Good g1 c 1 f) (h2 : ∀ acc, Good (loop · acc) (c + 1) 0 f) : Good g (c + 2) 1 (f + 1) := by
  intro ts r rest h
  rw [eq] at h
  obtain ⟨n, hn, hl, hp⟩ := h1.seq h2 (c := c + 1) (k := 0) (Nat.le_trans (Nat.le_succ c) (Nat.le_add_left _ _))
    (Nat.le_add_left _ _) id h
  exact ⟨n, hn, hl, Enough.step fun f' hf' => (eq ts f').trans (hp f' hf')⟩

/-- a loop that goes on at the separator `sep` with one more operand (`parse0Loop`, `parse3Loop`) -/
theorem Good.sepLoop {g1 : Level} {loop : Loop} {sep : Tok} {mk : Regex → Regex → Regex} {c f : Nat}
    (eq_sep : ∀ acc f l, loop (f + 1) acc (sep :: l) = andThen g1 loop (mk acc) f l)
    (eq_stop : ∀ acc ts f, (∀ l, ts = sep :: l → False) → loop (f + 1) acc ts = some (acc, ts))
    (h1 : Good g1 c 1 f) (h2 : ∀ acc, Good (loop · acc) (c + 1) 0 f) (acc : Regex) :
    Good (loop · acc) (c + 1) 0 (f + 1) := by
  intro ts r rest (h : loop (f + 1) acc ts = _)
  by_cases hb : ∃ l, ts = sep :: l
  · obtain ⟨l, rfl⟩ := hb
    rw [eq_sep] at h
    obtain ⟨n, -, hl, hp⟩ := h1.seq h2 (c := c) (k := 1) (Nat.le_add_left _ _)
      (Nat.add_comm c 1 ▸ Nat.add_le_add_right (by decide : 1 ≤ 4 * (1 + 1)) c) (mk acc) h
    exact ⟨n + 1, Nat.zero_le _, congrArg (· + 1) hl,
      Enough.step fun f' hf' => (eq_sep acc f' l).trans (hp f' hf')⟩
  · have hb' : ∀ l, ts = sep :: l → False := fun l hl => hb ⟨l, hl⟩
    rw [eq_stop _ _ _ hb'] at h
    cases h
    exact ⟨0, Nat.le_refl _, rfl, Enough.step fun _ _ => eq_stop _ _ _ hb'⟩

variable {f : Nat} (ih : GoodAll f)
include ih

/-- the loop of `parse1` consumes no token of its own: that its operand consumes one (`lo = 1` for
`parse2`) is what keeps the bound -/
theorem goodL1_step (acc : Regex) : Good (parse1Loop · acc) 5 0 (f + 1) := by
  intro ts r rest (h : parse1Loop (f + 1) acc ts = _)
  rw [parse1Loop.eq_2] at h
  by_cases hs : startsAtom ts = true
  · rw [if_pos hs] at h
    obtain ⟨n, -, hl, hp⟩ := ih.p2.seq ih.l1 (c := 4) (k := 0) (by decide) (by decide) (.cat acc) h
    refine ⟨n, Nat.zero_le _, hl, Enough.step fun f' hf' => ?_⟩
    show parse1Loop (f' + 1) acc ts = _
    rw [parse1Loop.eq_2, if_pos hs]
    exact hp f' hf'
  · rw [if_neg hs] at h
    cases h
    refine ⟨0, Nat.le_refl _, rfl, Enough.step fun f' _ => ?_⟩
    show parse1Loop (f' + 1) acc ts = _
    rw [parse1Loop.eq_2, if_neg hs]

theorem good2_step : Good parse2 4 1 (f + 1) := by
  intro ts r rest h
  rw [parse2.eq_2] at h
  cases h1 : parse3 f ts with
  | none => rw [h1] at h; cases h
  | some p =>
    obtain ⟨r1, rest1⟩ := p
    rw [h1] at h
    obtain ⟨n1, hn1, hl1, hp1⟩ := ih.p3 _ _ _ h1
    have h := Option.some.inj h
    obtain ⟨m, hm⟩ := parse2Loop_length r1 rest1
    rw [h] at hm
    refine ⟨m + n1, Nat.le_add_left_of_le hn1, by rw [hl1, hm, Nat.add_assoc], Enough.step fun f' hf' => ?_⟩
    rw [parse2.eq_2, hp1 f' (hf'.weaken 0 (Nat.le_add_left n1 m) (Nat.le_refl _))]
    exact congrArg some h

theorem good4_step : Good parse4 1 1 (f + 1) := by
  intro ts r rest h
  by_cases hp : ∃ l, ts = .lparen :: l
  · obtain ⟨l, rfl⟩ := hp
    unfold parse4 at h
    cases h1 : parse0 f l with
    | none => rw [h1] at h; cases h
    | some p =>
      obtain ⟨r1, rest1⟩ := p
      rw [h1] at h
      obtain ⟨n0, -, hl0, hp0⟩ := ih.p0 _ _ _ h1
      split at h
      · rename_i heq
        cases heq; cases h
        refine ⟨n0 + 2, Nat.le_add_left _ _,
          (congrArg (· + 1) hl0).trans (congrArg (· + 1) (Nat.add_right_comm _ 1 n0)),
          Enough.step fun f' hf' => ?_⟩
        unfold parse4
        rw [hp0 f' (hf'.weaken 2 (Nat.le_refl _) (by decide))]
      · cases h
  · by_cases hb : ∃ l, ts = .lbracket :: l
    · obtain ⟨l, rfl⟩ := hb
      unfold parse4 at h
      obtain ⟨⟨items, rest1⟩, h1, ⟨⟩⟩ := Option.map_eq_some_iff.mp h
      obtain ⟨n, -, hl, hpc⟩ := parseCharset_good f _ _ _ h1
      refine ⟨n + 1, Nat.le_add_left _ _, congrArg (· + 1) hl, Enough.step fun f' hf' => ?_⟩
      unfold parse4
      rw [hpc f' (hf'.weaken 1 (Nat.le_refl _) (by decide))]; rfl
    · obtain ⟨hlt, hp4⟩ := parse4_atom (fun l hl => hp ⟨l, hl⟩) (fun l hl => hb ⟨l, hl⟩) h
      exact ⟨ts.length - rest.length, Nat.sub_pos_of_lt hlt, (Nat.add_sub_cancel' (Nat.le_of_lt hlt)).symm,
        Enough.step fun f' _ => hp4 f'⟩

omit ih

theorem good_all (f : Nat) : GoodAll f := by
  induction f with
  | zero => exact ⟨nofun, nofun, nofun, nofun, nofun, nofun, nofun, nofun⟩
  | succ f ih =>
    exact {
      p0 := .head parse0.eq_2 ih.p1 ih.l0
      l0 := .sepLoop parse0Loop.eq_2 parse0Loop.eq_3 ih.p1 ih.l0
      p1 := .head parse1.eq_2 ih.p2 ih.l1
      l1 := goodL1_step ih
      p2 := good2_step ih
      p3 := .head parse3.eq_2 ih.p4 ih.l3
      l3 := .sepLoop parse3Loop.eq_2 parse3Loop.eq_3 ih.p4 ih.l3
      p4 := good4_step ih }

theorem Good.mono {α : Type} {g : Nat → List Tok → Option (α × List Tok)} {c lo f f' : Nat}
    (hg : Good g c lo f) {ts : List Tok} {res : α × List Tok} (h : g f ts = some res) (hle : f ≤ f') :
    g f' ts = some res :=
  (hg ts res.1 res.2 h).elim fun _ hn => hn.2.2 f' (.inl hle)

theorem parseRegex_of_parse0 {f : Nat} {ts : List Tok} {r : Regex} {rest : List Tok}
    (h : parse0 f ts = some (r, rest)) : parseRegex ts = some (r, rest) := by
  obtain ⟨n, -, hl, hp⟩ := (good_all f).p0 _ _ _ h
  exact hp _ (.inr (Nat.add_le_add_right (Nat.mul_le_mul_left 4 (hl ▸ Nat.le_add_left n _)) 8))

end ParserProofs

theorem parseLevel_ge4 (k : Nat) (hk : 4 ≤ k) (fuel : Nat) (ts : List Tok) :
    parseLevel k fuel ts = parse4 fuel ts := by
  obtain ⟨k, rfl⟩ := Nat.exists_eq_add_of_le' hk
  rfl

theorem parseLevel_mono (k : Nat) (fuel fuel' : Nat) (h : fuel ≤ fuel') (ts : List Tok) (res : Regex × List Tok)
    (hp : parseLevel k fuel ts = some res) : parseLevel k fuel' ts = some res := by
  have ih := ParserProofs.good_all fuel
  obtain _ | _ | _ | _ | k := k
  · exact ih.p0.mono hp h
  · exact ih.p1.mono hp h
  · exact ih.p2.mono hp h
  · exact ih.p3.mono hp h
  · exact ih.p4.mono hp h

namespace ParserProofs

def E (k : Nat) (ts : List Tok) (res : Regex × List Tok) : Prop := ∃ f, parseLevel k f ts = some res
def L0 (acc : Regex) (ts : List Tok) (res : Regex × List Tok) : Prop := ∃ f, parse0Loop f acc ts = some res
def L1 (acc : Regex) (ts : List Tok) (res : Regex × List Tok) : Prop := ∃ f, parse1Loop f acc ts = some res
def L3 (acc : Regex) (ts : List Tok) (res : Regex × List Tok) : Prop := ∃ f, parse3Loop f acc ts = some res

/-- what the caller of level `k` does with the tree parsed so far -/
def Cont (k : Nat) (r : Regex) (rest : List Tok) (res : Regex × List Tok) : Prop :=
  match k with
  | 0 => L0 r rest res
  | 1 => L1 r rest res
  | 2 => res = parse2Loop r rest
  | 3 => L3 r rest res
  | _ => res = (r, rest)

theorem andThen_some {g1 : Level} {g2 : Loop} {c1 lo1 c2 lo2 : Nat}
    (m1 : ∀ f, Good g1 c1 lo1 f) (m2 : ∀ f acc, Good (g2 · acc) c2 lo2 f) {F : Regex → Regex} {ts r1 rest1 res}
    (h1 : ∃ f, g1 f ts = some (r1, rest1)) (h2 : ∃ f, g2 f (F r1) rest1 = some res) :
    ∃ f, andThen g1 g2 F f ts = some res := by
  obtain ⟨f1, h1⟩ := h1
  obtain ⟨f2, h2⟩ := h2
  refine ⟨f1 + f2, ?_⟩
  unfold andThen
  rw [(m1 f1).mono h1 (Nat.le_add_right _ _)]
  exact (m2 f2 _).mono h2 (Nat.le_add_left _ _)

theorem E_intro {k : Nat} (hk : k ≤ 3) {ts r rest res} (h1 : E (k + 1) ts (r, rest))
    (h2 : Cont k r rest res) : E k ts res := by
  obtain _ | _ | _ | _ | k := k
  · obtain ⟨f, hf⟩ := andThen_some (F := id) (fun f => (good_all f).p1) (fun f => (good_all f).l0) h1 h2
    exact ⟨f + 1, hf⟩
  · obtain ⟨f, hf⟩ := andThen_some (F := id) (fun f => (good_all f).p2) (fun f => (good_all f).l1) h1 h2
    exact ⟨f + 1, hf⟩
  · obtain ⟨f, (h1 : parse3 f ts = _)⟩ := h1
    exact ⟨f + 1, (parse2.eq_2 ts f).trans (by rw [h1, (h2 : res = _)])⟩
  · obtain ⟨f, hf⟩ := andThen_some (F := id) (fun f => (good_all f).p4) (fun f => (good_all f).l3) h1 h2
    exact ⟨f + 1, hf⟩
  · exact absurd (Nat.le_trans (Nat.le_add_left 4 k) hk) (by decide)

theorem L0_bar {acc ts r2 rest res} (h1 : E 1 ts (r2, rest)) (h2 : L0 (.alt acc r2) rest res) :
    L0 acc (.bar :: ts) res :=
  let ⟨f, hf⟩ := andThen_some (fun f => (good_all f).p1) (fun f => (good_all f).l0) h1 h2
  ⟨f + 1, hf⟩

theorem L1_step {acc ts r2 rest res} (hs : startsAtom ts = true) (h1 : E 2 ts (r2, rest))
    (h2 : L1 (.cat acc r2) rest res) : L1 acc ts res :=
  let ⟨f, hf⟩ := andThen_some (fun f => (good_all f).p2) (fun f => (good_all f).l1) h1 h2
  ⟨f + 1, by rw [parse1Loop.eq_2, if_pos hs]; exact hf⟩

theorem L3_pound {acc ts r2 rest res} (h1 : E 4 ts (r2, rest)) (h2 : L3 (.diff acc r2) rest res) :
    L3 acc (.pound :: ts) res :=
  let ⟨f, hf⟩ := andThen_some (fun f => (good_all f).p4) (fun f => (good_all f).l3) h1 h2
  ⟨f + 1, hf⟩

theorem E4_paren {ts r rest} (h : E 0 ts (r, .rparen :: rest)) : E 4 (.lparen :: ts) (r, rest) := by
  obtain ⟨f, (h : parse0 f ts = _)⟩ := h
  refine ⟨f + 1, ?_⟩
  show parse4 _ _ = _
  unfold parse4
  rw [h]

theorem parse2Loop_stop (r : Regex) (rest : List Tok)
    (h : rest.head? ≠ some .star ∧ rest.head? ≠ some .plus ∧ rest.head? ≠ some .question) :
    parse2Loop r rest = (r, rest) := by
  refine parse2Loop.eq_4 r rest ?_ ?_ ?_
  · rintro l rfl; exact h.1 rfl
  · rintro l rfl; exact h.2.2 rfl
  · rintro l rfl; exact h.2.1 rfl

theorem StopsAt.mono {k k' : Nat} {rest : List Tok} (h : StopsAt k rest) (hk : k ≤ k') : StopsAt k' rest :=
  ⟨fun h' => h.1 (Nat.le_trans hk h'), fun h' => h.2.1 (Nat.le_trans hk h'),
    fun h' => h.2.2.1 (Nat.le_trans hk h'), fun h' => h.2.2.2 (Nat.le_trans hk h')⟩

def AtomTok (t : Tok) : Prop := ∀ l, startsAtom (t :: l) = true

theorem stopsAt2_of_atomTok {t : Tok} (h : AtomTok t) (l : List Tok) : StopsAt 2 (t :: l) :=
  ⟨nofun, nofun,
    fun _ => ⟨(by rintro ⟨⟩; cases h []), (by rintro ⟨⟩; cases h []), (by rintro ⟨⟩; cases h [])⟩,
    fun _ => by rintro ⟨⟩; cases h []⟩

theorem stopsAt_rparen (k : Nat) (l : List Tok) : StopsAt k (.rparen :: l) :=
  ⟨fun _ => nofun, fun _ => rfl, fun _ => ⟨nofun, nofun, nofun⟩, fun _ => nofun⟩
theorem stopsAt1_bar (l : List Tok) : StopsAt 1 (.bar :: l) :=
  ⟨nofun, fun _ => rfl, fun _ => ⟨nofun, nofun, nofun⟩, fun _ => nofun⟩
theorem stopsAt3 {rest : List Tok} (h : rest.head? ≠ some .pound) : StopsAt 3 rest :=
  ⟨nofun, nofun, nofun, fun _ => h⟩
theorem stopsAt_ge4 {k : Nat} (hk : 4 ≤ k) (l : List Tok) : StopsAt k l :=
  ⟨fun h => absurd (Nat.le_trans hk h) (by decide), fun h => absurd (Nat.le_trans hk h) (by decide),
    fun h => absurd (Nat.le_trans hk h) (by decide), fun h => absurd (Nat.le_trans hk h) (by decide)⟩

theorem getLast?_append_cons (l : List Tok) (a : Tok) (r : List Tok) :
    (l ++ a :: r).getLast? = (a :: r).getLast? := by
  rw [List.getLast?_append, List.getLast?_cons]
  rfl

theorem not_clash_of_head {ta : List Tok} {t : Tok} {l : List Tok} (h1 : t ≠ .dollar)
    (h2 : ∀ n, t ≠ .ident n) : ¬ DollarClash ta (t :: l) := by
  rintro ⟨_, h | ⟨n, h⟩⟩
  · simp at h; exact h1 h
  · simp at h; exact h2 n h

theorem not_clash_nil (ta : List Tok) : ¬ DollarClash ta [] := by
  rintro ⟨_, h | ⟨n, h⟩⟩ <;> simp at h

theorem not_clash_append_left {ta : List Tok} {t : Tok} {l rest : List Tok}
    (h : ¬ DollarClash (ta ++ t :: l) rest) : ¬ DollarClash (t :: l) rest := by
  intro hc
  apply h
  refine ⟨?_, hc.2⟩
  rw [getLast?_append_cons]; exact hc.1

theorem junction_of_other {rest : List Tok} (hrest : rest = [] ∨ ∃ s ts, rest = .other s :: ts)
    (ts : List Tok) : StopsAt 0 rest ∧ ¬ DollarClash ts rest := by
  rcases hrest with rfl | ⟨s, l, rfl⟩
  · exact ⟨⟨fun _ => nofun, fun _ => rfl, fun _ => ⟨nofun, nofun, nofun⟩, fun _ => nofun⟩, not_clash_nil _⟩
  · exact ⟨⟨fun _ => nofun, fun _ => rfl, fun _ => ⟨nofun, nofun, nofun⟩, fun _ => nofun⟩,
      not_clash_of_head nofun fun _ => nofun⟩

theorem cont_stop {k : Nat} {r : Regex} {rest : List Tok} (hs : StopsAt k rest) : Cont k r rest (r, rest) := by
  obtain _ | _ | _ | _ | k := k
  · refine ⟨1, parse0Loop.eq_3 _ _ _ ?_⟩
    rintro l rfl; exact hs.1 (Nat.le_refl _) rfl
  · exact ⟨1, by rw [parse1Loop.eq_2, if_neg (ne_true_of_eq_false (hs.2.1 (Nat.le_refl _)))]⟩
  · exact (parse2Loop_stop r rest (hs.2.2.1 (Nat.le_refl _))).symm
  · refine ⟨1, parse3Loop.eq_3 _ _ _ ?_⟩
    rintro l rfl; exact hs.2.2.2 (Nat.le_refl _) rfl
  · exact rfl

/-- parsing `ts ++ rest` at level `k` amounts to continuing level `k`'s loop at `rest` with `r` -/
def Stmt (k : Nat) (r : Regex) (ts : List Tok) : Prop :=
  ∀ rest res, StopsAt (k + 1) rest → ¬ DollarClash ts rest → Cont k r rest res → E k (ts ++ rest) res

theorem lift_down {r ts} (j : Nat) (hj : j ≤ 3) (h : Stmt (j + 1) r ts) : Stmt j r ts :=
  fun rest _ hs hc hcont =>
    E_intro hj (h rest (r, rest) (StopsAt.mono hs (Nat.le_succ _)) hc (cont_stop hs)) hcont

theorem lift_to {r ts} {c k : Nat} (hc : c ≤ 4) (hk : k ≤ c) (h : Stmt c r ts) : Stmt k r ts := by
  induction hk with
  | refl => exact h
  | step _ ih => exact ih (Nat.le_of_succ_le hc) (lift_down _ (Nat.le_of_succ_le_succ hc) h)

theorem printsAs_first {r : Regex} {k : Nat} {ts : List Tok} (h : PrintsAs r k ts) :
    ∃ t l, ts = t :: l ∧ AtomTok t := by
  induction h with
  | paren | builtin | var | chr | str | set | any | eoi => exact ⟨_, _, rfl, fun _ => rfl⟩
  | star _ _ ih | plus _ _ ih | opt _ _ ih | cat _ _ _ _ ih _ | alt _ _ _ ih _ | diff _ _ _ ih _ =>
    obtain ⟨t, l, rfl, ht⟩ := ih
    exact ⟨t, _, rfl, ht⟩

theorem itemsPrint_no_minus {items : List CharOrRange} {ts : List Tok} (h : ItemsPrint items ts)
    (l tail : List Tok) : ts ++ .rbracket :: l = .minus :: tail → False := by
  cases h <;> simp

theorem parseCharset_items {items : List CharOrRange} {ts : List Tok} (h : ItemsPrint items ts)
    (rest : List Tok) : ∃ f, parseCharset f (ts ++ .rbracket :: rest) = some (items, rest) := by
  induction h with
  | nil => exact ⟨1, rfl⟩
  | @chr c items ts hi ih =>
    obtain ⟨f, hf⟩ := ih
    refine ⟨f + 1, ?_⟩
    rw [List.cons_append, parseCharset.eq_5 _ _ _
      (fun c2 l hl => itemsPrint_no_minus hi rest _ hl) (fun l hl => itemsPrint_no_minus hi rest _ hl), hf]
    rfl
  | @rng s e items ts hi ih =>
    obtain ⟨f, hf⟩ := ih
    refine ⟨f + 1, ?_⟩
    simp only [List.cons_append]
    rw [parseCharset.eq_3, hf]
    rfl

theorem stmt_paren {r ts} (h : Stmt 0 r ts) : Stmt 4 r (.lparen :: ts ++ [.rparen]) := by
  intro rest res _ _ hcont
  obtain rfl : res = (r, rest) := hcont
  have h0 : E 0 (ts ++ .rparen :: rest) (r, .rparen :: rest) :=
    h (.rparen :: rest) _ (stopsAt_rparen 1 rest) (not_clash_of_head nofun fun _ => nofun)
      (cont_stop (stopsAt_rparen 0 rest))
  rw [List.append_assoc, List.cons_append]
  exact E4_paren h0

/-- the atoms that `parse4` reads with one unit of fuel whatever follows -/
theorem stmt_atom {r : Regex} {ts : List Tok} (h : ∀ rest, parse4 1 (ts ++ rest) = some (r, rest)) :
    Stmt 4 r ts := by
  intro rest res _ _ hcont
  obtain rfl : res = (r, rest) := hcont
  exact ⟨1, h rest⟩

theorem stmt_eoi : Stmt 4 .eoi [.dollar] := by
  intro rest res _ hc hcont
  obtain rfl : res = (.eoi, rest) := hcont
  refine ⟨1, parse4.eq_6 _ _ ?_ ?_ ?_⟩
  · rintro n l rfl; exact hc ⟨rfl, Or.inl rfl⟩
  · rintro l rfl; exact hc ⟨rfl, Or.inl rfl⟩
  · rintro n l rfl; exact hc ⟨rfl, Or.inr ⟨n, rfl⟩⟩

theorem stmt_set {items ts} (h : ItemsPrint items ts) : Stmt 4 (.set items) (.lbracket :: ts ++ [.rbracket]) := by
  intro rest res _ _ hcont
  obtain rfl : res = (.set items, rest) := hcont
  obtain ⟨f, hf⟩ := parseCharset_items h rest
  refine ⟨f + 1, ?_⟩
  rw [List.append_assoc, List.cons_append]
  show parse4 (f + 1) (.lbracket :: (ts ++ .rbracket :: rest)) = some (.set items, rest)
  unfold parse4
  rw [hf]
  rfl

theorem stmt_postfix {x tx} {op : Tok} {mk : Regex → Regex}
    (hop : ∀ r rest, parse2Loop r (op :: rest) = parse2Loop (mk r) rest)
    (h1 : op ≠ .dollar) (h2 : ∀ n, op ≠ .ident n) (h3 : op ≠ .pound) (h : Stmt 2 x tx) :
    Stmt 2 (mk x) (tx ++ [op]) := by
  intro rest res _ _ hcont
  rw [List.append_assoc]
  exact h (op :: rest) res (stopsAt3 (by simpa using h3)) (not_clash_of_head h1 h2)
    ((hcont : res = _).trans (hop x rest).symm)

theorem stmt_cat {a b ta tb} (ha : Stmt 1 a ta) (hb : Stmt 2 b tb)
    (hfirst : ∃ t l, tb = t :: l ∧ AtomTok t) (hnc : ¬ DollarClash ta tb) :
    Stmt 1 (.cat a b) (ta ++ tb) := by
  intro rest res hs hc hcont
  obtain ⟨t, l, rfl, ht⟩ := hfirst
  have hb2 : E 2 ((t :: l) ++ rest) (b, rest) :=
    hb rest _ (StopsAt.mono hs (by decide)) (not_clash_append_left hc) (cont_stop hs)
  have hl1 : L1 a ((t :: l) ++ rest) res := L1_step (ht _) hb2 hcont
  rw [List.append_assoc]
  exact ha ((t :: l) ++ rest) res (stopsAt2_of_atomTok ht _) hnc hl1

/-- `|` at level 0, `#` at level 3 -/
theorem stmt_sep {k : Nat} {a b ta tb} {sep : Tok} {mk : Regex → Regex → Regex}
    (hsep : ∀ {acc ts r2 rest res}, E (k + 1) ts (r2, rest) → Cont k (mk acc r2) rest res →
      Cont k acc (sep :: ts) res)
    (hstop : ∀ l, StopsAt (k + 1) (sep :: l)) (h1 : sep ≠ .dollar) (h2 : ∀ n, sep ≠ .ident n)
    (ha : Stmt k a ta) (hb : Stmt (k + 1) b tb) (hfirst : ∃ t l, tb = t :: l ∧ AtomTok t) :
    Stmt k (mk a b) (ta ++ sep :: tb) := by
  intro rest res hs hc hcont
  obtain ⟨t, l, rfl, ht⟩ := hfirst
  have hc' : ¬ DollarClash (t :: l) rest := by
    apply not_clash_append_left (ta := ta ++ [sep])
    rw [List.append_assoc]; exact hc
  have hb1 : E (k + 1) ((t :: l) ++ rest) (b, rest) :=
    hb rest _ (StopsAt.mono hs (Nat.le_succ _)) hc' (cont_stop hs)
  rw [List.append_assoc]
  exact ha (sep :: ((t :: l) ++ rest)) res (hstop _) (not_clash_of_head h1 h2) (hsep hb1 hcont)

theorem stmt_of_printsAs {r : Regex} {k : Nat} {ts : List Tok} (h : PrintsAs r k ts) (hk : k ≤ 4) :
    Stmt k r ts := by
  induction h with
  | paren _ ih => exact lift_to (by decide) hk (stmt_paren (ih (by decide)))
  | builtin | var | chr | str | any => exact lift_to (by decide) hk (stmt_atom fun _ => rfl)
  | set k hi => exact lift_to (by decide) hk (stmt_set hi)
  | eoi k => exact lift_to (by decide) hk stmt_eoi
  | star hk2 _ ih | plus hk2 _ ih | opt hk2 _ ih =>
    exact lift_to (by decide) hk2 (stmt_postfix (fun _ _ => rfl) nofun (fun _ => nofun) nofun (ih (by decide)))
  | cat hk1 _ hpb hnc iha ihb =>
    exact lift_to (by decide) hk1 (stmt_cat (iha (by decide)) (ihb (by decide)) (printsAs_first hpb) hnc)
  | alt hk0 _ hpb iha ihb =>
    exact lift_to (by decide) hk0
      (stmt_sep L0_bar stopsAt1_bar nofun (fun _ => nofun) (iha (by decide)) (ihb (by decide)) (printsAs_first hpb))
  | diff hk3 _ hpb iha ihb =>
    exact lift_to (by decide) hk3 (stmt_sep (k := 3) L3_pound (fun _ => stopsAt_ge4 (Nat.le_refl 4) _) nofun
      (fun _ => nofun) (iha (by decide)) (ihb (by decide)) (printsAs_first hpb))

theorem printItems_itemsPrint (items : List CharOrRange) : ItemsPrint items (printItems items) := by
  induction items with
  | nil => exact .nil
  | cons i items ih =>
    cases i with
    | chr c => exact .chr ih
    | rng s e => exact .rng ih


/-- `printRe` puts parentheses around the body exactly when the position asks for a higher level
than the tree has -/
theorem printsAs_wrap {r : Regex} {body : List Tok} (k : Nat) (h : ∀ j, j ≤ r.level → PrintsAs r j body) :
    PrintsAs r k (if r.level < k then .lparen :: body ++ [.rparen] else body) := by
  split
  · exact .paren (h 0 (Nat.zero_le _))
  · exact h k (Nat.le_of_not_lt ‹_›)

end ParserProofs

/-
Without the hypothesis `¬ DollarClash ts rest` the statement of `parse_printsAs_partial` is false:
for `r = .eoi`, `k = 0`, `ts = [.dollar]`, `rest = [.ident "x"]` we have `PrintsAs.eoi 0`, and
`StopsAt 0 [.ident "x"]` holds (an identifier is not `|`, an atom start, a postfix operator or `#`), but
`parseLevel 0 fuel [.dollar, .ident "x"] = some (.var "x", [])` for every `fuel ≥ 5`: a printing that
ends in `$` followed by an identifier (or, for `k ≥ 2`, by another `$`: `parseLevel 2 fuel [.dollar,
.dollar] = none`) reads as a variable / built-in. `¬ DollarClash` is the junction condition that
`PrintsAs.cat` imposes inside a printing, here imposed on the junction with `rest` as well.
-/
example : parseLevel 0 100 ([Tok.dollar] ++ [Tok.ident "x"]) = some (.var "x", []) := rfl
example : parseLevel 2 100 ([Tok.dollar] ++ [Tok.dollar]) = none := rfl
example : PrintsAs .eoi 0 [.dollar] ∧ StopsAt 0 [.ident "x"] :=
  ⟨.eoi 0, by simp [StopsAt, startsAtom]⟩

/-- Every printing of a tree (with the required and any redundant parentheses) parses back to that
tree, at the level it was printed for, leaving the rest of the input — whenever the rest does not
start with a token that level would consume, and the printing does not end in `$` with the rest
starting with `$` or an identifier. (`partial` refers to this last condition; nothing stronger holds,
see the three examples above.) -/
theorem parse_printsAs_partial (r : Regex) (k : Nat) (ts : List Tok) (hk : k ≤ 4) (h : PrintsAs r k ts)
    (rest : List Tok) (hrest : StopsAt k rest) (hclash : ¬ DollarClash ts rest) :
    ∃ fuel0, ∀ fuel, fuel0 ≤ fuel → parseLevel k fuel (ts ++ rest) = some (r, rest) := by
  obtain ⟨f, hf⟩ := ParserProofs.stmt_of_printsAs h hk rest (r, rest) (ParserProofs.StopsAt.mono hrest (Nat.le_succ k))
    hclash (ParserProofs.cont_stop hrest)
  exact ⟨f, fun fuel hle => parseLevel_mono k f fuel hle _ _ hf⟩

theorem printRe_printsAs (r : Regex) (hp : Printable r) (k : Nat) : PrintsAs r k (printRe r k) := by
  induction r generalizing k <;> refine ParserProofs.printsAs_wrap k fun j hj => ?_
  case builtin n => exact .builtin n j
  case var n => exact .var n j
  case chr c => exact .chr c j
  case str cs => exact .str cs j
  case set items => exact .set j (ParserProofs.printItems_itemsPrint items)
  case any => exact .any j
  case eoi => exact .eoi j
  case star x ih => exact .star hj (ih hp 2)
  case plus x ih => exact .plus hj (ih hp 2)
  case opt x ih => exact .opt hj (ih hp 2)
  case cat a b iha ihb =>
    obtain ⟨ha, hb, hnc⟩ : Printable a ∧ Printable b ∧ ¬ DollarClash (printRe a 1) (printRe b 2) := hp
    exact .cat hj (iha ha 1) (ihb hb 2) hnc
  case alt a b iha ihb => exact .alt hj (iha hp.1 0) (ihb hp.2 1)
  case diff a b iha ihb => exact .diff hj (iha hp.1 3) (ihb hp.2 4)

/-- Printing any tree with the fewest parentheses the grammar allows and parsing it gives back the
tree. -/
theorem parse_print (r : Regex) (hp : Printable r) (rest : List Tok)
    (hrest : rest = [] ∨ ∃ s ts, rest = .other s :: ts) :
    ∃ fuel0, ∀ fuel, fuel0 ≤ fuel → parse0 fuel (printRe r 0 ++ rest) = some (r, rest) := by
  obtain ⟨hstop, hclash⟩ := ParserProofs.junction_of_other hrest (printRe r 0)
  exact parse_printsAs_partial r 0 (printRe r 0) (Nat.zero_le 4) (printRe_printsAs r hp 0) rest hstop hclash

/-- the README's `'a' 'b' | 'c'+` -/
example : parseRegex (printRe (.alt (.cat (.chr 97) (.chr 98)) (.plus (.chr 99))) 0)
    = some (.alt (.cat (.chr 97) (.chr 98)) (.plus (.chr 99)), []) := rfl

example : printRe (.star (.alt (.chr 97) (.chr 98))) 0
    = [.lparen, .chr 97, .bar, .chr 98, .rparen, .star] := rfl

end Lexgen
