import LexgenModel.Spec.Total
import LexgenModel.Proofs.Subset
/-!
# Reachability and predecessor sets of the DFA the work-list subset construction builds

`nfaToDfa_reach_preds`: in the DFA `nfaToDfa` returns every state is reachable from state 0
(`AllReachable0`) and every recorded predecessor is a real predecessor (`PredsSound`).

The loop invariant `KInv` of `Proofs/Subset.lean` is extended (`RInv`) by
* `par`: every state but 0 has a finished parent with a smaller index,
* `ps`: a recorded predecessor `p` of `s` has `s` in its table.
Both rest on `Subset.mem_succs`: the successors of an expanded state are exactly the states of the
closures it pushed. An expansion records `d` as predecessor of those states only (`Mid.preds`).
-/
namespace Lexgen
namespace SubsetReach
open Lexgen.Subset

theorem succs_empty : DFA.succs (DState.empty : DState Nat) = [] := rfl

structure RInv (nfa : NFA) (b : Builder) (finished : List Nat) (wl : List (List Nat)) : Prop where
  base : KInv (fun _ => True) nfa b finished wl
  par : ∀ i, i < b.dfa.length → i ≠ 0 → ∃ p ∈ finished, p < i ∧ i ∈ DFA.succs (b.dfa.st p)
  ps : ∀ s p, p ∈ (b.dfa.st s).preds → s ∈ DFA.succs (b.dfa.st p)

theorem rinv_expand {nfa : NFA} {b : Builder} {finished : List Nat} {cur : List Nat} {wl : List (List Nat)}
    (h : RInv nfa b finished (cur :: wl)) {d : Nat} (hd : (cur, d) ∈ b.stateMap) (hfin : d ∉ finished) :
    RInv nfa (expandState nfa b d cur).1 (d :: finished) ((expandState nfa b d cur).2 ++ wl) := by
  have hdl : d < b.dfa.length := wfb_idx_lt h.base.wf hd
  have hemp := h.base.unfin d hfin
  obtain ⟨hm, ht⟩ := expand_table nfa cur h.base.wf hdl hemp
  have hp := expandState_pushed nfa b d cur
  have hd0 : DFA.succs (b.dfa.st d) = [] := (succs_congr hemp).trans succs_empty
  have hbase := h.base.expand hd hfin (fun _ _ => trivial)
  generalize expandState nfa b d cur = r at hm ht hp hbase ⊢
  -- a successor of `d` is the state of a pushed key
  have hsucc : ∀ t k, k ∈ pushedOf nfa (collect nfa cur) → (k, t) ∈ r.1.stateMap → t ∈ DFA.succs (r.1.dfa.st d) :=
    fun t k hk hkt => (mem_succs ht (fun _ _ _ => wfb_key_inj hm.wf) t).mpr ⟨k, hk, hkt⟩
  refine ⟨hbase, fun i hi hi0 => ?_, fun s p hpr => ?_⟩
  · by_cases hib : i < b.dfa.length
    · obtain ⟨p, hp', hlt, hmem⟩ := h.par i hib hi0
      have hpd : p ≠ d := fun e => hfin (e ▸ hp')
      exact ⟨p, List.mem_cons_of_mem _ hp', hlt, by rw [succs_congr (hm.other p hpd)]; exact hmem⟩
    · -- a new state has a new key, and new keys are pushed
      obtain ⟨k, hk⟩ := wfb_has_key hm.wf hi
      rcases hm.new _ hk with h1 | h1
      · exact absurd (wfb_idx_lt h.base.wf h1) hib
      · exact ⟨d, List.mem_cons_self, Nat.lt_of_lt_of_le hdl (Nat.le_of_not_lt hib), hsucc i k (hp ▸ h1) hk⟩
  · rcases hm.preds s p hpr with h1 | ⟨rfl, k, hk, hks⟩
    · have h2 := h.ps s p h1
      have hpd : p ≠ d := fun e => by rw [e, hd0] at h2; cases h2
      rw [succs_congr (hm.other p hpd)]; exact h2
    · exact hsucc s k (hp ▸ hk) hks

theorem rinv_init (nfa : NFA) : RInv nfa (initB nfa) [] [nfa.closure [0]] := by
  refine ⟨KInv.init trivial, fun i hi hi0 => ?_, fun s p hpm => ?_⟩
  · exact absurd (Nat.lt_one_iff.mp hi) hi0
  · cases s <;> cases hpm

theorem reach_preds {nfa : NFA} {d : DFA Nat} (hd : nfaToDfa nfa = some d) : AllReachable0 d ∧ PredsSound d := by
  obtain ⟨bf, hloop, rfl⟩ := nfaToDfa_eq_some.mp hd
  obtain ⟨fin, hinv⟩ := loop_ind (RInv nfa)
    (fun b fin cur wl b' d h he hc => by
      obtain ⟨rfl, hd⟩ := h.base.stateOf_head he
      exact ⟨h.base.skip hd hc, h.par, h.ps⟩)
    (fun b fin cur wl b' d h he hc => by
      obtain ⟨rfl, hd⟩ := h.base.stateOf_head he
      exact rinv_expand h hd hc)
    _ _ _ _ _ hloop (rinv_init nfa)
  constructor
  · intro s
    induction s using Nat.strongRecOn with
    | _ s ih =>
      intro hs
      by_cases h0 : s = 0
      · subst h0; exact .refl 0
      · obtain ⟨p, hp, hlt, hmem⟩ := hinv.par s hs h0
        exact .step (ih p hlt (Nat.lt_trans hlt hs)) hmem
  · intro s hs p hp
    have hmem := hinv.ps s p hp
    refine ⟨Nat.lt_of_not_le fun hle => ?_, hmem⟩
    rw [dst_eq_empty_of_le _ hle] at hmem
    cases hmem

end SubsetReach

set_option linter.unusedVariables false in
open Lexgen.Subset in
/-- In the DFA the subset construction builds, every state is reachable from state 0, and the
recorded predecessor sets only contain real predecessors. This holds of every NFA
(`SubsetReach.reach_preds`); `hwf` and `hne` are the standing hypotheses of the callers and are not used. -/
theorem nfaToDfa_reach_preds (nfa : NFA) (hwf : NFAWF nfa) (hne : Subset.TargetsNonempty nfa) (d : DFA Nat)
    (hd : nfaToDfa nfa = some d) : AllReachable0 d ∧ PredsSound d :=
  SubsetReach.reach_preds hd

end Lexgen
