import LexgenModel.Proofs.SubsetCollect
/-!
# Subset construction: `expandState` as a composition of stages, and the closures it pushes
-/
namespace Lexgen.Subset
open Lexgen

/-- equality of the transition table and accept list (everything but `initial`, `preds`,
`backtrack`) -/
structure TEq (s s' : DState Nat) : Prop where
  chars : s.chars = s'.chars
  ranges : s.ranges = s'.ranges
  any : s.any = s'.any
  eoi : s.eoi = s'.eoi
  acc : s.accepting = s'.accepting

theorem TEq.rfl' (s : DState Nat) : TEq s s := ⟨rfl, rfl, rfl, rfl, rfl⟩
theorem TEq.trans {a b c : DState Nat} (h1 : TEq a b) (h2 : TEq b c) : TEq a c :=
  ⟨h1.chars.trans h2.chars, h1.ranges.trans h2.ranges, h1.any.trans h2.any, h1.eoi.trans h2.eoi,
    h1.acc.trans h2.acc⟩
theorem TEq.symm {a b : DState Nat} (h : TEq a b) : TEq b a :=
  ⟨h.chars.symm, h.ranges.symm, h.any.symm, h.eoi.symm, h.acc.symm⟩

theorem dst_eq_empty_of_le (D : DFA Nat) {i : Nat} (h : D.length ≤ i) : D.st i = DState.empty := by
  unfold DFA.st
  rw [List.getD_eq_getElem?_getD, List.getElem?_eq_none h]
  rfl

theorem dst_append_empty (D : DFA Nat) (i : Nat) : DFA.st (D ++ [DState.empty]) i = DFA.st D i := by
  unfold DFA.st
  rw [List.getD_eq_getElem?_getD, List.getD_eq_getElem?_getD, List.getElem?_append]
  by_cases h : i < D.length
  · simp [h]
  · simp only [h, if_false]
    rw [List.getElem?_eq_none (Nat.le_of_not_lt h)]
    cases i - D.length <;> simp

theorem dst_modify (D : DFA Nat) (k i : Nat) (f : DState Nat → DState Nat) :
    DFA.st (D.modify k f) i = if k = i ∧ i < D.length then f (DFA.st D i) else DFA.st D i := by
  unfold DFA.st
  rw [List.getD_eq_getElem?_getD, List.getD_eq_getElem?_getD, List.getElem?_modify]
  by_cases hk : k = i
  · by_cases hi : i < D.length <;> simp [hk, hi]
  · cases D[i]? <;> simp [hk]

theorem dst_modify_ne (D : DFA Nat) {k i : Nat} (f : DState Nat → DState Nat) (h : k ≠ i) :
    DFA.st (D.modify k f) i = DFA.st D i := by
  rw [dst_modify]; simp [h]

theorem dst_modify_eq (D : DFA Nat) {k : Nat} (f : DState Nat → DState Nat) (h : k < D.length) :
    DFA.st (D.modify k f) k = f (DFA.st D k) := by
  rw [dst_modify]; simp [h]

theorem length_addPred (D : DFA Nat) (t p : Nat) : (DFA.addPred D t p).length = D.length := by
  unfold DFA.addPred; exact List.length_modify _ _ _

theorem teq_addPred (D : DFA Nat) (t p i : Nat) : TEq ((DFA.addPred D t p).st i) (D.st i) := by
  unfold DFA.addPred
  rw [dst_modify]
  by_cases h : t = i ∧ i < D.length
  · rw [if_pos h]; exact ⟨rfl, rfl, rfl, rfl, rfl⟩
  · rw [if_neg h]; exact TEq.rfl' _

/-- A `modify` whose function keeps `initial` keeps every state's `initial` flag. Callers pass
`fun _ => by rfl`: a term `rfl` is elaborated before `f` is known and fixes it to the identity. -/
theorem initial_modify (D : DFA Nat) (k : Nat) {f : DState Nat → DState Nat}
    (hf : ∀ s, (f s).initial = s.initial) (i : Nat) :
    (DFA.st (D.modify k f) i).initial = (D.st i).initial := by
  rw [dst_modify]; split
  · exact hf _
  · rfl

theorem initial_addPred (D : DFA Nat) (t p i : Nat) : ((DFA.addPred D t p).st i).initial = (D.st i).initial := by
  unfold DFA.addPred; exact initial_modify _ _ (fun _ => by rfl) i

theorem mem_preds_modify {D : DFA Nat} {k : Nat} {f : DState Nat → DState Nat}
    (hf : ∀ x, (f x).preds = x.preds) {s p : Nat} (h : p ∈ (DFA.st (D.modify k f) s).preds) :
    p ∈ (D.st s).preds := by
  rw [dst_modify] at h; split at h
  · exact hf _ ▸ h
  · exact h

theorem preds_addPred (D : DFA Nat) (t q s p : Nat) (h : p ∈ ((DFA.addPred D t q).st s).preds) :
    p ∈ (D.st s).preds ∨ (p = q ∧ s = t) := by
  unfold DFA.addPred at h
  rw [dst_modify] at h
  split at h
  · next hc => exact (mem_setInsert.mp h).symm.imp_right fun h1 => ⟨h1, hc.1.symm⟩
  · exact Or.inl h

theorem predsFold_spec (d : Nat) (rng : RangeMap Nat) (D D' : DFA Nat)
    (h : rng.foldl (fun dfa r => DFA.addPred dfa r.2.2 d) D = D') :
    D'.length = D.length ∧ ∀ i, TEq (D'.st i) (D.st i) ∧ (D'.st i).initial = (D.st i).initial ∧
      ∀ p ∈ (D'.st i).preds, p ∈ (D.st i).preds ∨ (p = d ∧ ∃ q ∈ rng, q.2.2 = i) := by
  subst h
  induction rng generalizing D with
  | nil => exact ⟨rfl, fun i => ⟨TEq.rfl' _, rfl, fun _ h => Or.inl h⟩⟩
  | cons q rng ih =>
    obtain ⟨h1, h2⟩ := ih (DFA.addPred D q.2.2 d)
    refine ⟨h1.trans (length_addPred _ _ _), fun i => ⟨(h2 i).1.trans (teq_addPred _ _ _ _),
      (h2 i).2.1.trans (initial_addPred _ _ _ _), fun p hp => ?_⟩⟩
    rcases (h2 i).2.2 p hp with h3 | ⟨e1, q', hq', e2⟩
    · exact (preds_addPred _ _ _ _ _ h3).imp_right fun ⟨e1, e2⟩ => ⟨e1, q, List.mem_cons_self, e2.symm⟩
    · exact Or.inr ⟨e1, q', List.mem_cons_of_mem _ hq', e2⟩

/-- the state map of a builder lists each key once and numbers the DFA states in order: a key's
index is a state of `b.dfa`, and keys and indices determine each other -/
def WFB (b : Builder) : Prop :=
  (b.stateMap.map (·.1)).Nodup ∧ b.stateMap.map (·.2) = List.range b.dfa.length

/-- what every key of the state map satisfies when `nfaToDfa` runs on a well-formed NFA: it is a
non-empty sorted set. The instance of `K` in `KInv` under which the language theorem is proved. -/
def KeyOK (k : List Nat) : Prop := Ascending k ∧ k ≠ []

theorem wfb_idx_lt {b : Builder} (h : WFB b) {e : List Nat × Nat} (he : e ∈ b.stateMap) :
    e.2 < b.dfa.length := by
  have : e.2 ∈ b.stateMap.map (·.2) := List.mem_map_of_mem he
  rw [h.2] at this
  exact List.mem_range.mp this

theorem wfb_key_inj {b : Builder} (h : WFB b) {k : List Nat} {i j : Nat} (hi : (k, i) ∈ b.stateMap)
    (hj : (k, j) ∈ b.stateMap) : i = j := by
  have := inj_of_nodup_map (·.1) h.1 hi hj rfl
  exact congrArg Prod.snd this

theorem wfb_idx_inj {b : Builder} (h : WFB b) {k k' : List Nat} {i : Nat} (hi : (k, i) ∈ b.stateMap)
    (hj : (k', i) ∈ b.stateMap) : k = k' := by
  have hn : (b.stateMap.map (·.2)).Nodup := by rw [h.2]; exact List.nodup_range
  have := inj_of_nodup_map (·.2) hn hi hj rfl
  exact congrArg Prod.fst this

theorem stateOf_cases (b : Builder) (k : List Nat) :
    (∃ i, (k, i) ∈ b.stateMap ∧ b.stateOf k = (b, i)) ∨
    ((∀ e ∈ b.stateMap, e.1 ≠ k) ∧
      b.stateOf k = (⟨b.dfa ++ [DState.empty], b.stateMap ++ [(k, b.dfa.length)]⟩, b.dfa.length)) := by
  unfold Builder.stateOf
  cases hf : b.stateMap.find? (fun e => e.1 = k) with
  | some e =>
    have hk : e.1 = k := by simpa using List.find?_some hf
    exact Or.inl ⟨e.2, hk ▸ List.mem_of_find?_eq_some hf, rfl⟩
  | none => exact Or.inr ⟨fun e he => by simpa using List.find?_eq_none.mp hf e he, rfl⟩

theorem wfb_append {b : Builder} (hb : WFB b) {k : List Nat} (hk : ∀ e ∈ b.stateMap, e.1 ≠ k) :
    WFB ⟨b.dfa ++ [DState.empty], b.stateMap ++ [(k, b.dfa.length)]⟩ := by
  constructor
  · show ((b.stateMap ++ [(k, b.dfa.length)]).map (·.1)).Nodup
    rw [List.map_append, List.nodup_append]
    refine ⟨hb.1, List.pairwise_singleton _ _, fun a ha c hc hac => ?_⟩
    obtain ⟨e, he, rfl⟩ := List.mem_map.mp ha
    exact hk e he (hac.trans (List.mem_singleton.mp hc))
  · show (b.stateMap ++ [(k, b.dfa.length)]).map (·.2) = List.range (b.dfa ++ [DState.empty]).length
    rw [List.map_append, hb.2, List.length_append, List.length_singleton, List.range_succ]
    rfl

theorem stateOf_spec (b : Builder) (k : List Nat) (hb : WFB b) :
    WFB (b.stateOf k).1 ∧ (∀ e ∈ b.stateMap, e ∈ (b.stateOf k).1.stateMap) ∧
    (∀ e ∈ (b.stateOf k).1.stateMap, e ∈ b.stateMap ∨ e.1 = k) ∧
    (k, (b.stateOf k).2) ∈ (b.stateOf k).1.stateMap ∧
    (∀ i, (b.stateOf k).1.dfa.st i = b.dfa.st i) ∧ b.dfa.length ≤ (b.stateOf k).1.dfa.length := by
  rcases stateOf_cases b k with ⟨i, hi, he⟩ | ⟨hk, he⟩
  · rw [he]
    exact ⟨hb, fun _ h => h, fun _ h => Or.inl h, hi, fun _ => rfl, Nat.le_refl _⟩
  · rw [he]
    refine ⟨wfb_append hb hk, fun _ h => List.mem_append_left _ h, fun e h => ?_,
      List.mem_append_right _ (List.mem_singleton.mpr rfl), fun i => dst_append_empty _ _, ?_⟩
    · exact (List.mem_append.mp h).imp id fun h => congrArg Prod.fst (List.mem_singleton.mp h)
    · show b.dfa.length ≤ (b.dfa ++ [DState.empty]).length
      rw [List.length_append]; exact Nat.le_add_right _ _

/-- `b` is a builder on the way from `b0` through the expansion of state `d`, and `pushed` are the
keys looked up so far: the state map only grew, by those keys; only the table of `d` changed; `d` is
the only predecessor recorded, and only for states of pushed keys. -/
structure Mid (b0 : Builder) (d : Nat) (b : Builder) (pushed : List (List Nat)) : Prop where
  wf : WFB b
  old : ∀ e ∈ b0.stateMap, e ∈ b.stateMap
  new : ∀ e ∈ b.stateMap, e ∈ b0.stateMap ∨ e.1 ∈ pushed
  len : b0.dfa.length ≤ b.dfa.length
  other : ∀ i, i ≠ d → TEq (b.dfa.st i) (b0.dfa.st i)
  reg : ∀ k ∈ pushed, ∃ i, (k, i) ∈ b.stateMap
  flags : ∀ i, (b.dfa.st i).initial = (b0.dfa.st i).initial
  preds : ∀ s p, p ∈ (b.dfa.st s).preds →
    p ∈ (b0.dfa.st s).preds ∨ (p = d ∧ ∃ k ∈ pushed, (k, s) ∈ b.stateMap)

theorem mid_refl (b : Builder) (d : Nat) (hb : WFB b) : Mid b d b [] :=
  ⟨hb, fun _ h => h, fun _ h => Or.inl h, Nat.le_refl _, fun _ _ => TEq.rfl' _, fun _ h => (nomatch h), fun _ => rfl,
    fun _ _ h => Or.inl h⟩

section
variable {b0 b : Builder} {d : Nat} {pushed : List (List Nat)}

theorem mid_setdfa (h : Mid b0 d b pushed)
    (D : DFA Nat) (hl : D.length = b.dfa.length) (ho : ∀ i, i ≠ d → TEq (D.st i) (b.dfa.st i))
    (hf : ∀ i, (D.st i).initial = (b.dfa.st i).initial)
    (hp : ∀ s p, p ∈ (D.st s).preds → p ∈ (b.dfa.st s).preds ∨ (p = d ∧ ∃ k ∈ pushed, (k, s) ∈ b.stateMap)) :
    Mid b0 d { b with dfa := D } pushed :=
  ⟨⟨h.wf.1, by show b.stateMap.map (·.2) = List.range D.length; rw [hl]; exact h.wf.2⟩, h.old, h.new,
    by show b0.dfa.length ≤ D.length; rw [hl]; exact h.len,
    fun i hi => (ho i hi).trans (h.other i hi), h.reg, fun i => (hf i).trans (h.flags i),
    fun s p hpm => (hp s p hpm).elim (h.preds s p) Or.inr⟩

theorem mid_stateOf (h : Mid b0 d b pushed) (k : List Nat) :
    Mid b0 d (b.stateOf k).1 (k :: pushed) ∧ (k, (b.stateOf k).2) ∈ (b.stateOf k).1.stateMap ∧
    (∀ e ∈ b.stateMap, e ∈ (b.stateOf k).1.stateMap) ∧ (∀ i, (b.stateOf k).1.dfa.st i = b.dfa.st i) := by
  obtain ⟨s1, s2, s3, s4, s5, s6⟩ := stateOf_spec b k h.wf
  refine ⟨⟨s1, fun e he => s2 e (h.old e he), fun e he => ?_, Nat.le_trans h.len s6,
    fun i hi => by rw [s5 i]; exact h.other i hi, fun k' hk' => ?_,
    fun i => by rw [s5 i]; exact h.flags i, fun s p hpm => ?_⟩, s4, s2, s5⟩
  · rcases s3 e he with h1 | h1
    · exact (h.new e h1).imp id (List.mem_cons_of_mem _)
    · exact Or.inr (h1 ▸ List.mem_cons_self)
  · rcases List.mem_cons.mp hk' with rfl | h1
    · exact ⟨_, s4⟩
    · exact (h.reg k' h1).imp fun _ h => s2 _ h
  · rw [s5 s] at hpm
    exact (h.preds s p hpm).imp_right fun ⟨e, k', hk', hm⟩ => ⟨e, k', List.mem_cons_of_mem _ hk', s2 _ hm⟩

def link (b : Builder) (d : Nat) (k : List Nat) (upd : Nat → DState Nat → DState Nat) : Builder :=
  { (b.stateOf k).1 with
    dfa := DFA.addPred ((b.stateOf k).1.dfa.modify d (upd (b.stateOf k).2)) (b.stateOf k).2 d }

theorem mid_link (h : Mid b0 d b pushed)
    (hd : d < b0.dfa.length) (k : List Nat) (upd : Nat → DState Nat → DState Nat)
    (hupd : ∀ t s, (upd t s).initial = s.initial ∧ (upd t s).preds = s.preds) :
    Mid b0 d (link b d k upd) (k :: pushed) ∧ (k, (b.stateOf k).2) ∈ (link b d k upd).stateMap ∧
    (∀ e ∈ b.stateMap, e ∈ (link b d k upd).stateMap) ∧
    TEq ((link b d k upd).dfa.st d) (upd (b.stateOf k).2 (b.dfa.st d)) := by
  obtain ⟨m1, m2, m3, m4⟩ := mid_stateOf h k
  have hlen : d < (b.stateOf k).1.dfa.length := Nat.lt_of_lt_of_le hd m1.len
  refine ⟨mid_setdfa m1 _ ?_ ?_ ?_ ?_, m2, m3, ?_⟩
  · rw [length_addPred, List.length_modify]
  · intro i hi
    refine (teq_addPred _ _ _ _).trans ?_
    rw [dst_modify_ne _ _ (Ne.symm hi)]
    exact TEq.rfl' _
  · exact fun i => (initial_addPred _ _ _ i).trans (initial_modify _ _ (fun s => (hupd _ s).1) i)
  · intro s p hpm
    rcases preds_addPred _ _ _ _ _ hpm with h1 | ⟨e1, e2⟩
    · exact Or.inl (mem_preds_modify (fun x => (hupd _ x).2) h1)
    · exact Or.inr ⟨e1, k, List.mem_cons_self, e2 ▸ m2⟩
  · show TEq ((DFA.addPred _ _ _).st d) _
    refine (teq_addPred _ _ _ _).trans ?_
    rw [dst_modify_eq _ _ hlen, m4 d]
    exact TEq.rfl' _

end

def ctg (col : Collected) (e : Nat × List Nat) : List Nat :=
  setUnion (col.ranges.foldl (fun t r => if r.1 ≤ e.1 ∧ e.1 ≤ r.2.1 then setUnion t r.2.2 else t) e.2) col.any

def charStep (nfa : NFA) (col : Collected) (d : Nat) (acc : Builder × List (List Nat)) (e : Nat × List Nat) :
    Builder × List (List Nat) :=
  (link acc.1 d (nfa.closure (ctg col e)) (fun t st => { st with chars := st.chars ++ [(e.1, t)] }),
    nfa.closure (ctg col e) :: acc.2)

def rangeStep (nfa : NFA) (col : Collected) (acc : Builder × List (List Nat) × RangeMap Nat)
    (r : Nat × Nat × List Nat) : Builder × List (List Nat) × RangeMap Nat :=
  ((acc.1.stateOf (nfa.closure (setUnion r.2.2 col.any))).1,
    nfa.closure (setUnion r.2.2 col.any) :: acc.2.1,
    acc.2.2 ++ [(r.1, r.2.1, (acc.1.stateOf (nfa.closure (setUnion r.2.2 col.any))).2)])

def optStep (nfa : NFA) (d : Nat) (tg : List Nat) (upd : Nat → DState Nat → DState Nat)
    (acc : Builder × List (List Nat)) : Builder × List (List Nat) :=
  if (nfa.closure tg).isEmpty then acc
  else (link acc.1 d (nfa.closure tg) upd, nfa.closure tg :: acc.2)

/-- The stages of `expandState`, in the order it runs them: `acceptStage` writes the accept list,
`charsStage` links the collected char entries, `rangesStage` looks up the collected ranges, `rangePreds`
records their predecessors and `rangeTableStage` writes the range table; `any` and end-of-input follow
by `optStep` (`expandC`, `expandState_eqC`). -/
def acceptStage (b : Builder) (d : Nat) (col : Collected) : Builder :=
  { b with dfa := b.dfa.modify d fun st => { st with accepting := col.accs } }

def charsStage (nfa : NFA) (col : Collected) (d : Nat) (b1 : Builder) : Builder × List (List Nat) :=
  col.chars.foldl (charStep nfa col d) (b1, [])

def rangesStage (nfa : NFA) (col : Collected) (a2 : Builder × List (List Nat)) :
    Builder × List (List Nat) × RangeMap Nat :=
  col.ranges.foldl (rangeStep nfa col) (a2.1, a2.2, [])

def rangePreds (d : Nat) (a3 : Builder × List (List Nat) × RangeMap Nat) : DFA Nat :=
  a3.2.2.foldl (fun dfa r => DFA.addPred dfa r.2.2 d) a3.1.dfa

def rangeTableStage (d : Nat) (a3 : Builder × List (List Nat) × RangeMap Nat) : Builder :=
  { a3.1 with dfa := (rangePreds d a3).modify d (fun st => { st with ranges := a3.2.2 }) }

def expandC (nfa : NFA) (col : Collected) (b : Builder) (d : Nat) : Builder × List (List Nat) :=
  optStep nfa d col.eoi (fun t st => { st with eoi := some t })
    (optStep nfa d col.any (fun t st => { st with any := some t })
      (rangeTableStage d (rangesStage nfa col (charsStage nfa col d (acceptStage b d col))),
        (rangesStage nfa col (charsStage nfa col d (acceptStage b d col))).2.1))

/-- `expandState` as the composition of its stages. A bare `rfl` proves this too, but slowly:
with `expandState` unfolded first only the stage definitions remain to be unfolded. -/
theorem expandState_eqC (nfa : NFA) (b : Builder) (d : Nat) (cur : List Nat) :
    expandState nfa b d cur = expandC nfa (collect nfa cur) b d := by
  simp only [expandState]; rfl

/-! ## the closures `expandState` pushes

They are determined by the collected data alone; the builder only decides which of them get a
fresh DFA state. -/

def optL (k : List Nat) : List (List Nat) := if k.isEmpty then [] else [k]

def pushedOf (nfa : NFA) (col : Collected) : List (List Nat) :=
  optL (nfa.closure col.eoi) ++ optL (nfa.closure col.any) ++
    (col.ranges.map fun r => nfa.closure (setUnion r.2.2 col.any)).reverse ++
    (col.chars.map fun e => nfa.closure (ctg col e)).reverse

theorem charFold_snd (nfa : NFA) (col : Collected) (d : Nat) (l : List (Nat × List Nat))
    (acc : Builder × List (List Nat)) :
    (l.foldl (charStep nfa col d) acc).2 = (l.map fun e => nfa.closure (ctg col e)).reverse ++ acc.2 := by
  induction l generalizing acc with
  | nil => rfl
  | cons e l ih => rw [List.foldl_cons, ih, List.map_cons, List.reverse_cons, List.append_assoc]; rfl

theorem rangeFold_snd (nfa : NFA) (col : Collected) (l : RangeMap (List Nat))
    (acc : Builder × List (List Nat) × RangeMap Nat) :
    (l.foldl (rangeStep nfa col) acc).2.1 =
      (l.map fun r => nfa.closure (setUnion r.2.2 col.any)).reverse ++ acc.2.1 := by
  induction l generalizing acc with
  | nil => rfl
  | cons e l ih => rw [List.foldl_cons, ih, List.map_cons, List.reverse_cons, List.append_assoc]; rfl

theorem optStep_snd (nfa : NFA) (d : Nat) (tg : List Nat) (upd : Nat → DState Nat → DState Nat)
    (acc : Builder × List (List Nat)) : (optStep nfa d tg upd acc).2 = optL (nfa.closure tg) ++ acc.2 := by
  unfold optStep optL; split <;> rfl

theorem expandC_pushed (nfa : NFA) (col : Collected) (b : Builder) (d : Nat) :
    (expandC nfa col b d).2 = pushedOf nfa col := by
  unfold expandC pushedOf
  rw [optStep_snd, optStep_snd]
  show _ ++ (_ ++ (rangesStage _ _ _).2.1) = _
  unfold rangesStage charsStage
  rw [rangeFold_snd, charFold_snd, List.append_nil, List.append_assoc, List.append_assoc]

theorem expandState_pushed (nfa : NFA) (b : Builder) (d : Nat) (cur : List Nat) :
    (expandState nfa b d cur).2 = pushedOf nfa (collect nfa cur) := by
  rw [expandState_eqC, expandC_pushed]

theorem mem_optL {k k' : List Nat} : k' ∈ optL k ↔ k' = k ∧ k' ≠ [] := by
  unfold optL
  cases k with
  | nil => simp
  | cons a l => simp +contextual [iff_def]

theorem mem_pushedOf {nfa : NFA} {col : Collected} {k : List Nat} :
    k ∈ pushedOf nfa col ↔
      (k = nfa.closure col.eoi ∧ k ≠ []) ∨ (k = nfa.closure col.any ∧ k ≠ []) ∨
      (∃ r ∈ col.ranges, k = nfa.closure (setUnion r.2.2 col.any)) ∨
      (∃ e ∈ col.chars, k = nfa.closure (ctg col e)) := by
  unfold pushedOf
  simp only [List.mem_append, List.mem_reverse, List.mem_map, mem_optL, or_assoc, eq_comm (b := k)]

end Lexgen.Subset
