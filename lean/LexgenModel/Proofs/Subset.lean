import LexgenModel.Proofs.SubsetPath
import LexgenModel.Proofs.SubsetTable
/-!
# Correctness of the work-list subset construction `nfaToDfa`, where it returns a DFA

Main result: `nfaToDfa_correct_partial` — if `nfaToDfa nfa = some d` for an NFA satisfying `NFAWF`
and `Subset.TargetsNonempty`, then `SubsetCorrect nfa d ∧ TargetsInRange d`. That `nfaToDfa` does
return a DFA is `nfaToDfa_total` (`Proofs/SubsetTotal.lean`).

The statement without `TargetsNonempty` is false (`nfaToDfa_correct_counterexample`).
-/
namespace Lexgen.Subset
open Lexgen

def stepS (s : DState Nat) : Sym → Option Nat
  | .ch c => lookupTrans s c
  | .eoi => s.eoi

theorem stepD_eq (d : DFA Nat) (s : Nat) (x : Sym) : stepD d s x = stepS (d.st s) x := by
  cases x <;> rfl

theorem succs_congr {a b : DState Nat} (h : TEq a b) : DFA.succs a = DFA.succs b := by
  simp only [DFA.succs, h.chars, h.ranges, h.any, h.eoi]

theorem lookupChar_rel {nfa : NFA} {col : Collected} {sm : List (List Nat × Nat)}
    {L : List (Nat × List Nat)} {Q : List (Nat × Nat)} (h : Rel₂ (CR nfa col sm) L Q) (c : Nat) :
    (lookupChar L c = none → lookupChar Q c = none) ∧
    (∀ v, lookupChar L c = some v → ∃ t, lookupChar Q c = some t ∧ (nfa.closure (ctg col (c, v)), t) ∈ sm) := by
  induction h with
  | nil => exact ⟨fun _ => rfl, fun v hv => nomatch hv⟩
  | @cons a q l m hab _ ih =>
    obtain ⟨k, v0⟩ := a
    obtain ⟨k', t0⟩ := q
    obtain ⟨rfl, hm⟩ : k' = k ∧ _ := hab
    simp only [lookupChar]
    split
    · next hc => exact ⟨fun h => (nomatch h), fun v hv => by cases hv; exact ⟨t0, rfl, hc ▸ hm⟩⟩
    · exact ih

theorem lookupRange_rel {nfa : NFA} {col : Collected} {sm : List (List Nat × Nat)}
    {L : RangeMap (List Nat)} {Q : RangeMap Nat} (h : Rel₂ (RR nfa col sm) L Q) (c : Nat) :
    (RangeMap.lookup L c = none → RangeMap.lookup Q c = none) ∧
    (∀ v, RangeMap.lookup L c = some v →
      ∃ t, RangeMap.lookup Q c = some t ∧ (nfa.closure (setUnion v col.any), t) ∈ sm) := by
  induction h with
  | nil => exact ⟨fun _ => rfl, fun v hv => nomatch hv⟩
  | @cons a q l m hab _ ih =>
    obtain ⟨s, e, v0⟩ := a
    obtain ⟨s', e', t0⟩ := q
    obtain ⟨rfl, rfl, hm⟩ : s' = s ∧ e' = e ∧ _ := hab
    simp only [RangeMap.lookup]
    split
    · exact ⟨fun h => (nomatch h), fun v hv => by cases hv; exact ⟨t0, rfl, hm⟩⟩
    · exact ih

theorem stepCh_iff {nfa : NFA} {S : List Nat} {col : Collected} (hcs : ColSpec nfa S col) (c m : Nat) :
    (∃ s ∈ S, NFA.stepCh nfa s c m) ↔
      optMem (lookupChar col.chars c) m ∨ optMem (RangeMap.lookup col.ranges c) m ∨ m ∈ col.any := by
  simp only [hcs.cmem, hcs.rmem, hcs.any, ← exists_or, ← and_or_left]
  rfl

/-- the transition of the expanded state on `x` leads to the state whose key is the closure of the
`x`-successors `M` of the members; there is none iff there are no successors -/
theorem trans_spec {nfa : NFA} {S : List Nat} {col : Collected} (hcs : ColSpec nfa S col)
    {sm : List (List Nat × Nat)} {st : DState Nat} (ht : DTable nfa col sm st) (x : Sym) :
    ∃ M : List Nat, (∀ m, m ∈ M ↔ ∃ s ∈ S, NFA.stepSym nfa s x m) ∧
      ((nfa.closure M = [] ∧ stepS st x = none) ∨ (∃ t, stepS st x = some t ∧ (nfa.closure M, t) ∈ sm)) := by
  cases x with
  | eoi =>
    exact ⟨col.eoi, hcs.eoi, ht.eoi.weak⟩
  | ch c =>
    simp only [stepS, NFA.stepSym, lookupTrans]
    have hC := lookupChar_rel ht.chars c
    have hR := lookupRange_rel ht.ranges c
    cases hL : lookupChar col.chars c with
    | some v =>
      obtain ⟨t, h1, h2⟩ := hC.2 v hL
      refine ⟨ctg col (c, v), fun m => ?_, Or.inr ⟨t, by rw [h1], h2⟩⟩
      rw [stepCh_iff hcs, mem_ctg, hL, optMem_some, optMem, ranges_lookup hcs.rwf]
    | none =>
      rw [hC.1 hL]
      cases hL2 : RangeMap.lookup col.ranges c with
      | some v =>
        obtain ⟨t, h1, h2⟩ := hR.2 v hL2
        refine ⟨setUnion v col.any, fun m => ?_, Or.inr ⟨t, by rw [h1], h2⟩⟩
        rw [stepCh_iff hcs, hL, hL2, optMem_some, mem_setUnion]
        simp [optMem_none]
      | none =>
        rw [hR.1 hL2]
        refine ⟨col.any, fun m => ?_, ht.any.weak⟩
        rw [stepCh_iff hcs, hL, hL2]
        simp [optMem_none]

theorem mem_closure_step {nfa : NFA} (hwf : NFAWF nfa) {S M : List Nat} {x : Sym}
    (hM : ∀ m, m ∈ M ↔ ∃ s ∈ S, NFA.stepSym nfa s x m) (u : Nat) :
    u ∈ nfa.closure M ↔ StepP nfa (· ∈ S) x u := by
  simp only [mem_closure hwf, hM, StepP]
  exact ⟨fun ⟨m, ⟨s, hs, hst⟩, hr⟩ => ⟨s, hs, m, hst, hr⟩, fun ⟨s, hs, m, hst, hr⟩ => ⟨m, ⟨s, hs, hst⟩, hr⟩⟩

theorem mem_succs {nfa : NFA} {col : Collected} {sm : List (List Nat × Nat)} {st : DState Nat}
    (ht : DTable nfa col sm st) (hinj : ∀ k i j, (k, i) ∈ sm → (k, j) ∈ sm → i = j) (t : Nat) :
    t ∈ DFA.succs st ↔ ∃ k ∈ pushedOf nfa col, (k, t) ∈ sm := by
  unfold DFA.succs
  simp only [List.mem_append, List.mem_map, ht.any.mem_toList hinj, ht.eoi.mem_toList hinj, mem_pushedOf]
  constructor
  · rintro (((⟨q, hq, rfl⟩ | ⟨q, hq, rfl⟩) | ⟨h1, h2⟩) | ⟨h1, h2⟩)
    · obtain ⟨e, he, hr⟩ := ht.chars.mem_right hq
      exact ⟨_, Or.inr (Or.inr (Or.inr ⟨e, he, rfl⟩)), hr.2⟩
    · obtain ⟨r, hr, hq⟩ := ht.ranges.mem_right hq
      exact ⟨_, Or.inr (Or.inr (Or.inl ⟨r, hr, rfl⟩)), hq.2.2⟩
    · exact ⟨_, Or.inr (Or.inl ⟨rfl, h1⟩), h2⟩
    · exact ⟨_, Or.inl ⟨rfl, h1⟩, h2⟩
  · rintro ⟨k, (⟨rfl, h1⟩ | ⟨rfl, h1⟩ | ⟨r, hr, rfl⟩ | ⟨e, he, rfl⟩), hk⟩
    · exact Or.inr ⟨h1, hk⟩
    · exact Or.inl (Or.inr ⟨h1, hk⟩)
    · obtain ⟨q, hq, h⟩ := ht.ranges.mem_left hr
      exact Or.inl (Or.inl (Or.inr ⟨q, hq, hinj _ _ _ h.2.2 hk⟩))
    · obtain ⟨q, hq, h⟩ := ht.chars.mem_left he
      exact Or.inl (Or.inl (Or.inl ⟨q, hq, hinj _ _ _ h.2 hk⟩))

/-- The loop invariant. It holds for every NFA; `K` is any property of keys that the closures
pushed by an expansion inherit from the expanded key, and the place to add an invariant of keys:
`nfaToDfa_tables` hands it on to every entry of the final state map (instances: `KeyOK`,
`SubsetTotal.KeyB`, `True`). Finished states have their table (`tab`),
the others are still empty (`unfin`) and wait on the work list (`pending`); whatever is on the work
list has a state already (`reg`), so the loop head never creates one; state 0 alone is marked
initial (`flags`). -/
structure KInv (K : List Nat → Prop) (nfa : NFA) (b : Builder) (finished : List Nat)
    (wl : List (List Nat)) : Prop where
  wf : WFB b
  zero : (nfa.closure [0], 0) ∈ b.stateMap
  keys : ∀ e ∈ b.stateMap, K e.1
  reg : ∀ k ∈ wl, ∃ i, (k, i) ∈ b.stateMap
  finlt : ∀ i ∈ finished, i < b.dfa.length
  tab : ∀ S i, (S, i) ∈ b.stateMap → i ∈ finished → DTable nfa (collect nfa S) b.stateMap (b.dfa.st i)
  unfin : ∀ i, i ∉ finished → TEq (b.dfa.st i) DState.empty
  pending : ∀ S i, (S, i) ∈ b.stateMap → i ∉ finished → S ∈ wl
  flags : ∀ s, (b.dfa.st s).initial = true ↔ s = 0

theorem wfb_has_key {b : Builder} (h : WFB b) {i : Nat} (hi : i < b.dfa.length) :
    ∃ S, (S, i) ∈ b.stateMap := by
  have : i ∈ b.stateMap.map (·.2) := by rw [h.2]; exact List.mem_range.mpr hi
  obtain ⟨e, he, rfl⟩ := List.mem_map.mp this
  exact ⟨e.1, he⟩

theorem old_entry {b b' : Builder} (hb : WFB b) (hb' : WFB b') (hsub : ∀ e ∈ b.stateMap, e ∈ b'.stateMap)
    {S : List Nat} {i : Nat} (hi : i < b.dfa.length) (he : (S, i) ∈ b'.stateMap) : (S, i) ∈ b.stateMap := by
  obtain ⟨S', hS'⟩ := wfb_has_key hb hi
  have := wfb_idx_inj hb' he (hsub _ hS')
  rw [this]; exact hS'

section
variable {K : List Nat → Prop} {nfa : NFA} {b : Builder} {finished : List Nat} {cur : List Nat}
  {wl : List (List Nat)}

theorem KInv.stateOf_head (h : KInv K nfa b finished (cur :: wl)) {b' : Builder} {d : Nat}
    (he : b.stateOf cur = (b', d)) : b = b' ∧ (cur, d) ∈ b.stateMap := by
  rcases stateOf_cases b cur with ⟨i, hi, h1⟩ | ⟨h1, -⟩
  · cases he.symm.trans h1
    exact ⟨rfl, hi⟩
  · obtain ⟨i, hi⟩ := h.reg cur List.mem_cons_self
    exact absurd rfl (h1 _ hi)

theorem KInv.skip (h : KInv K nfa b finished (cur :: wl)) {d : Nat} (hd : (cur, d) ∈ b.stateMap)
    (hfin : d ∈ finished) : KInv K nfa b finished wl := by
  refine ⟨h.wf, h.zero, h.keys, fun k hk => h.reg k (List.mem_cons_of_mem _ hk), h.finlt, h.tab, h.unfin,
    fun S i he hi => ?_, h.flags⟩
  rcases List.mem_cons.mp (h.pending S i he hi) with rfl | h1
  · exact absurd (wfb_key_inj h.wf hd he ▸ hfin) hi
  · exact h1

theorem KInv.expand (h : KInv K nfa b finished (cur :: wl)) {d : Nat} (hd : (cur, d) ∈ b.stateMap)
    (hfin : d ∉ finished) (hK : ∀ k ∈ pushedOf nfa (collect nfa cur), K k) :
    KInv K nfa (expandState nfa b d cur).1 (d :: finished) ((expandState nfa b d cur).2 ++ wl) := by
  have hdl : d < b.dfa.length := wfb_idx_lt h.wf hd
  obtain ⟨hm, ht⟩ := expand_table nfa cur h.wf hdl (h.unfin d hfin)
  have hp := expandState_pushed nfa b d cur
  generalize expandState nfa b d cur = r at hm ht hp ⊢
  refine ⟨hm.wf, hm.old _ h.zero, fun e he => ?_, fun k hk => ?_, fun i hi => ?_, fun S i he hi => ?_,
    fun i hi => (hm.other i (List.ne_of_not_mem_cons hi)).trans (h.unfin i (List.not_mem_of_not_mem_cons hi)),
    fun S i he hi => ?_,
    fun s => by rw [hm.flags s]; exact h.flags s⟩
  · exact (hm.new e he).elim (h.keys e) fun h1 => hK _ (hp ▸ h1)
  · rcases List.mem_append.mp hk with h1 | h1
    · exact hm.reg k h1
    · exact (h.reg k (List.mem_cons_of_mem _ h1)).imp fun _ h => hm.old _ h
  · rcases List.mem_cons.mp hi with rfl | h1
    · exact Nat.lt_of_lt_of_le hdl hm.len
    · exact Nat.lt_of_lt_of_le (h.finlt i h1) hm.len
  · rcases List.mem_cons.mp hi with rfl | h1
    · exact wfb_idx_inj hm.wf (hm.old _ hd) he ▸ ht
    · exact (h.tab S i (old_entry h.wf hm.wf hm.old (h.finlt i h1) he) h1).congr
        (hm.other i fun hid => hfin (hid ▸ h1)) hm.old
  · rcases hm.new _ he with h3 | h3
    · rcases List.mem_cons.mp (h.pending S i h3 (List.not_mem_of_not_mem_cons hi)) with rfl | h4
      · exact absurd (wfb_key_inj h.wf h3 hd) (List.ne_of_not_mem_cons hi)
      · exact List.mem_append_right _ h4
    · exact List.mem_append_left _ h3

end

theorem loop_nil (nfa : NFA) (fuel : Nat) (finished : List Nat) (b : Builder) :
    nfaToDfaLoop nfa fuel [] finished b = some b := by
  cases fuel <;> rfl

theorem loop_cons (nfa : NFA) (fuel : Nat) (cur : List Nat) (wl : List (List Nat)) (finished : List Nat)
    (b : Builder) :
    nfaToDfaLoop nfa (fuel + 1) (cur :: wl) finished b =
      if finished.contains (b.stateOf cur).2 then nfaToDfaLoop nfa fuel wl finished (b.stateOf cur).1
      else nfaToDfaLoop nfa fuel ((expandState nfa (b.stateOf cur).1 (b.stateOf cur).2 cur).2 ++ wl)
        ((b.stateOf cur).2 :: finished) (expandState nfa (b.stateOf cur).1 (b.stateOf cur).2 cur).1 := by
  rw [nfaToDfaLoop]

theorem loop_ind {nfa : NFA} (I : Builder → List Nat → List (List Nat) → Prop)
    (hskip : ∀ b fin cur wl b' d, I b fin (cur :: wl) → b.stateOf cur = (b', d) → d ∈ fin → I b' fin wl)
    (hexp : ∀ b fin cur wl b' d, I b fin (cur :: wl) → b.stateOf cur = (b', d) → d ∉ fin →
      I (expandState nfa b' d cur).1 (d :: fin) ((expandState nfa b' d cur).2 ++ wl)) :
    ∀ fuel wl fin b bf, nfaToDfaLoop nfa fuel wl fin b = some bf → I b fin wl → ∃ fin', I bf fin' [] := by
  intro fuel
  induction fuel with
  | zero =>
    intro wl fin b bf h hI
    cases wl with
    | nil => rw [loop_nil] at h; cases h; exact ⟨fin, hI⟩
    | cons cur wl => rw [nfaToDfaLoop] at h; cases h
  | succ fuel ih =>
    intro wl fin b bf h hI
    cases wl with
    | nil => rw [loop_nil] at h; cases h; exact ⟨fin, hI⟩
    | cons cur wl =>
      rw [loop_cons] at h
      by_cases hc : (b.stateOf cur).2 ∈ fin
      · rw [if_pos (List.contains_iff_mem.mpr hc)] at h
        exact ih _ _ _ _ h (hskip _ _ _ _ _ _ hI rfl hc)
      · rw [if_neg (fun hh => hc (List.contains_iff_mem.mp hh))] at h
        exact ih _ _ _ _ h (hexp _ _ _ _ _ _ hI rfl hc)

/-- the builder `nfa_to_dfa` starts from: state 0, marked initial, for the closure of NFA state 0 -/
def initB (nfa : NFA) : Builder :=
  { dfa := [{ (DState.empty : DState Nat) with initial := true }], stateMap := [(nfa.closure [0], 0)] }

theorem nfaToDfa_eq_some {nfa : NFA} {d : DFA Nat} : nfaToDfa nfa = some d ↔
    ∃ bf, nfaToDfaLoop nfa (nfaToDfaFuel nfa) [nfa.closure [0]] [] (initB nfa) = some bf ∧ bf.dfa = d := by
  unfold nfaToDfa
  exact Option.map_eq_some_iff

theorem KInv.init {K : List Nat → Prop} {nfa : NFA} (h0 : K (nfa.closure [0])) :
    KInv K nfa (initB nfa) [] [nfa.closure [0]] := by
  refine ⟨⟨List.pairwise_singleton _ _, rfl⟩, List.mem_singleton.mpr rfl, fun e he => List.mem_singleton.mp he ▸ h0,
    fun k hk => ⟨0, List.mem_singleton.mp hk ▸ List.mem_singleton.mpr rfl⟩, fun i hi => (nomatch hi),
    fun S i _ hi => (nomatch hi), fun i _ => ?_, fun S i he _ => ?_, fun s => ?_⟩
  · cases i <;> exact ⟨rfl, rfl, rfl, rfl, rfl⟩
  · cases List.mem_singleton.mp he
    exact List.mem_singleton.mpr rfl
  · cases s with
    | zero => exact ⟨fun _ => rfl, fun _ => rfl⟩
    | succ k => exact ⟨fun h => (by cases h), fun h => (nomatch h)⟩

/-- What is known of the builder when the loop has ended: the state map numbers the keys, every
state has the subset-construction table of its key, and state 0 alone is marked initial; `K` as in
`KInv`. -/
structure Final (K : List Nat → Prop) (nfa : NFA) (b : Builder) : Prop where
  wf : WFB b
  zero : (nfa.closure [0], 0) ∈ b.stateMap
  keys : ∀ e ∈ b.stateMap, K e.1
  tab : ∀ S i, (S, i) ∈ b.stateMap → DTable nfa (collect nfa S) b.stateMap (b.dfa.st i)
  flags : ∀ s, (b.dfa.st s).initial = true ↔ s = 0

theorem nfaToDfa_tables {K : List Nat → Prop} {nfa : NFA} {d : DFA Nat} (h : nfaToDfa nfa = some d)
    (h0 : K (nfa.closure [0])) (hK : ∀ S, K S → ∀ k ∈ pushedOf nfa (collect nfa S), K k) :
    ∃ sm, Final K nfa ⟨d, sm⟩ := by
  obtain ⟨bf, hloop, rfl⟩ := nfaToDfa_eq_some.mp h
  obtain ⟨fin, hI⟩ := loop_ind (KInv K nfa)
    (by
      intro b fin cur wl b' d hI he hc
      obtain ⟨rfl, hd⟩ := hI.stateOf_head he
      exact hI.skip hd hc)
    (by
      intro b fin cur wl b' d hI he hc
      obtain ⟨rfl, hd⟩ := hI.stateOf_head he
      exact hI.expand hd hc (hK cur (hI.keys _ hd)))
    _ _ _ _ _ hloop (KInv.init h0)
  exact ⟨bf.stateMap, hI.wf, hI.zero, hI.keys, fun S i he => hI.tab S i he
    (Classical.byContradiction fun hi => nomatch hI.pending S i he hi), hI.flags⟩

theorem nfaToDfa_inRange {nfa : NFA} {d : DFA Nat} (h : nfaToDfa nfa = some d) :
    TargetsInRange d ∧ (d.st 0).initial = true := by
  obtain ⟨sm, hwfb, -, -, htab, hinit⟩ := nfaToDfa_tables (K := fun _ => True) h trivial fun _ _ _ _ => trivial
  refine ⟨fun s hs t ht => ?_, (hinit 0).mpr rfl⟩
  obtain ⟨S, hS⟩ := wfb_has_key hwfb hs
  obtain ⟨k, -, hk⟩ := (mem_succs (htab S s hS) (fun _ _ _ => wfb_key_inj hwfb) t).mp ht
  exact wfb_idx_lt hwfb hk

theorem keyOK_pushed {nfa : NFA} (hwf : NFAWF nfa) (hne : TargetsNonempty nfa) (S : List Nat) :
    ∀ k ∈ pushedOf nfa (collect nfa S), KeyOK k := by
  intro k hk
  have hcs := collect_spec hwf S
  rcases mem_pushedOf.mp hk with ⟨rfl, h⟩ | ⟨rfl, h⟩ | ⟨r, hr, rfl⟩ | ⟨e, he, rfl⟩
  · exact ⟨ascending_closure hwf _, h⟩
  · exact ⟨ascending_closure hwf _, h⟩
  · exact keyOK_closure hwf (setUnion_ne_nil_left (col_ranges_ne hne hcs r hr))
  · exact keyOK_closure hwf (ctg_ne_nil _ e (col_chars_ne hne hcs e he))

theorem stepP_empty (nfa : NFA) {P : Nat → Prop} (h : ∀ u, ¬ P u) (x : Sym) : ∀ u, ¬ StepP nfa P x u := by
  rintro u ⟨s, hs, _⟩; exact h s hs

theorem after_empty (nfa : NFA) (w : List Sym) : ∀ {P : Nat → Prop}, (∀ u, ¬ P u) → ∀ u, ¬ After nfa P w u := by
  induction w with
  | nil => intro P h u; exact h u
  | cons x w ih => intro P h u; exact ih (stepP_empty nfa h x) u

/-- Reading `w` from the state with key `S` leads to the state whose key is the set of NFA states
reached from `S` by `w`, and fails iff there are none. -/
theorem reach_spec {nfa : NFA} (hwf : NFAWF nfa) {b : Builder}
    (htab : ∀ S i, (S, i) ∈ b.stateMap → DTable nfa (collect nfa S) b.stateMap (b.dfa.st i)) (w : List Sym) :
    ∀ (i : Nat) (S : List Nat), (S, i) ∈ b.stateMap →
      (∀ t, reachSym b.dfa i w = some t → ∃ T, (T, t) ∈ b.stateMap ∧ ∀ u, u ∈ T ↔ After nfa (· ∈ S) w u) ∧
      (reachSym b.dfa i w = none → ∀ u, ¬ After nfa (· ∈ S) w u) := by
  induction w with
  | nil => exact fun i S hS => ⟨fun t ht => by cases ht; exact ⟨S, hS, fun u => Iff.rfl⟩, fun hn => nomatch hn⟩
  | cons x w ih =>
    intro i S hS
    obtain ⟨M, hM, h⟩ := trans_spec (collect_spec hwf S) (htab S i hS) x
    have hmem := mem_closure_step hwf hM
    simp only [reachSym, stepD_eq]
    rcases h with ⟨hnil, hnone⟩ | ⟨t, hsome, hT⟩
    · rw [hnone]
      refine ⟨fun t ht => (by cases ht), fun _ => after_empty nfa w fun u hu => ?_⟩
      exact List.ne_nil_of_mem ((hmem u).mpr hu) hnil
    · rw [hsome]
      obtain ⟨i1, i2⟩ := ih t _ hT
      refine ⟨fun t' ht' => ?_, fun hn u ha => i2 hn u ((after_congr nfa w _ _ hmem u).mpr ha)⟩
      obtain ⟨T', hT', hm'⟩ := i1 t' ht'
      exact ⟨T', hT', fun u => (hm' u).trans (after_congr nfa w _ _ hmem u)⟩

theorem reach_zero {nfa : NFA} (hwf : NFAWF nfa) {b : Builder}
    (htab : ∀ S i, (S, i) ∈ b.stateMap → DTable nfa (collect nfa S) b.stateMap (b.dfa.st i))
    (hzero : (nfa.closure [0], 0) ∈ b.stateMap) (w : List Sym) :
    (∀ t, reachSym b.dfa 0 w = some t → ∃ T, (T, t) ∈ b.stateMap ∧ ∀ u, u ∈ T ↔ NPath nfa 0 w u) ∧
    (reachSym b.dfa 0 w = none → ∀ u, ¬ NPath nfa 0 w u) := by
  have hafter : ∀ u, After nfa (· ∈ nfa.closure [0]) w u ↔ NPath nfa 0 w u := fun u =>
    (after_congr nfa w _ _ (fun u => (mem_closure hwf).trans
      ⟨fun ⟨s, hs, hr⟩ => List.mem_singleton.mp hs ▸ hr, fun hr => ⟨0, List.mem_singleton.mpr rfl, hr⟩⟩) u).trans
      (after_start nfa w u)
  obtain ⟨h1, h2⟩ := reach_spec hwf htab w 0 _ hzero
  exact ⟨fun t ht => (h1 t ht).imp fun T hT => ⟨hT.1, fun u => (hT.2 u).trans (hafter u)⟩,
    fun hn u hp => h2 hn u ((hafter u).mpr hp)⟩

theorem Final.reach_key {K : List Nat → Prop} {nfa : NFA} (hwf : NFAWF nfa) {b : Builder} (hf : Final K nfa b)
    {w : List Sym} {t : Nat} (h : reachSym b.dfa 0 w = some t) : ∃ T, (T, t) ∈ b.stateMap ∧ ∀ u, u ∈ T ↔ NPath nfa 0 w u :=
  (reach_zero hwf hf.tab hf.zero w).1 t h

end Lexgen.Subset

namespace Lexgen
open Lexgen.Subset

/-- Without `Subset.TargetsNonempty` the statement of `nfaToDfa_correct_partial` is false:
`NFAWF` allows a char (or range) entry with an empty target list. For such an entry
`expandState` creates a transition to the DFA state with key `closure [] = []`, which stands for no
NFA state at all, while `SubsetCorrect` demands a non-empty set of NFA states behind every
reachable DFA state. -/
theorem nfaToDfa_correct_counterexample :
    ∃ (nfa : NFA) (d : DFA Nat), NFAWF nfa ∧ nfaToDfa nfa = some d ∧ ¬ SubsetCorrect nfa d := by
  refine ⟨[{ chars := [(97, [])] }], [{ initial := true, chars := [(97, 1)] }, { preds := [0] }], ?_, rfl, ?_⟩
  · refine ⟨by decide, fun s hs => ?_, fun s hs => ?_, fun s hs t ht => ?_⟩ <;> cases Nat.lt_one_iff.mp hs
    · trivial
    · exact List.pairwise_singleton _ _
    · rcases ht with h | h | h | ⟨e, he, h⟩ | ⟨r, hr, _⟩
      · cases h
      · cases h
      · cases h
      · cases List.mem_singleton.mp he; cases h
      · cases hr
  · intro h
    obtain ⟨S, _, hS, hmem, _⟩ := h [.ch 97]
    obtain ⟨u, hu⟩ := List.exists_mem_of_ne_nil _ hS
    obtain ⟨s', m, _, hstep, _⟩ := npath_cons.mp ((hmem u).mp hu)
    -- no state has a transition on 97 to anything
    cases s' with
    | zero =>
      rcases hstep with ⟨tg, h, hm⟩ | ⟨r, hr, _⟩ | h
      · cases List.mem_singleton.mp h; cases hm
      · cases hr
      · cases h
    | succ k =>
      rcases hstep with ⟨tg, h, hm⟩ | ⟨r, hr, _⟩ | h
      · cases h
      · cases hr
      · cases h

/-- The DFA that `nfaToDfa` returns is the subset automaton of the NFA. Besides `NFAWF` this needs
`Subset.TargetsNonempty nfa`: no char / range entry of the NFA has an empty target list
(`nfaToDfa_correct_counterexample`). -/
theorem nfaToDfa_correct_partial (nfa : NFA) (hwf : NFAWF nfa) (hne : Subset.TargetsNonempty nfa)
    (d : DFA Nat) (h : nfaToDfa nfa = some d) : SubsetCorrect nfa d ∧ TargetsInRange d := by
  obtain ⟨sm, hwfb, hzero, hkeys, htab, -⟩ :=
    nfaToDfa_tables h (keyOK_closure hwf (List.cons_ne_nil _ _)) fun S _ => keyOK_pushed hwf hne S
  constructor
  · intro w
    have hr := reach_zero hwf (b := ⟨d, sm⟩) htab hzero w
    cases hreach : reachSym d 0 w with
    | none => exact hr.2 hreach
    | some t =>
      obtain ⟨T, hT, hmem⟩ := hr.1 t hreach
      exact ⟨T, (hkeys _ hT).1, (hkeys _ hT).2, hmem, (htab T t hT).acc.trans (collect_spec hwf T).accs⟩
  · exact (nfaToDfa_inRange h).1

end Lexgen
