import LexgenModel.Model.Runtime
/-!
# From one call of `next()` to `n` calls

`runN` and the reference run `specRunN` iterate their step functions in the same way (`IsRun`). A relation between the lexer
states of two such runs that one call preserves, returning the same item on either side (`StepRel`), is preserved by `n`
calls, and these return the same items (`IsRun.rel`).
-/
namespace Lexgen

/-- `run` makes `n` calls of `step` and stops at the first call that fails, as `runN` does with `next` -/
def IsRun {α ι : Type} (step : α → Option (ι × α)) (run : Nat → α → List (Option ι) × α) : Prop :=
  (∀ a, run 0 a = ([], a)) ∧
  ∀ n a, run (n + 1) a =
    match step a with
    | none => ([none], a)
    | some (i, a') => (some i :: (run n a').1, (run n a').2)

inductive StepRel {α β ι : Type} (R : α → β → Prop) : Option (ι × α) → Option (ι × β) → Prop
  | none : StepRel R none none
  | some (i : ι) {a : α} {b : β} : R a b → StepRel R (some (i, a)) (some (i, b))

theorem IsRun.rel {α β ι : Type} {step1 : α → Option (ι × α)} {step2 : β → Option (ι × β)}
    {run1 : Nat → α → List (Option ι) × α} {run2 : Nat → β → List (Option ι) × β}
    (h1 : IsRun step1 run1) (h2 : IsRun step2 run2) (R : α → β → Prop)
    (hstep : ∀ a b, R a b → StepRel R (step1 a) (step2 b)) :
    ∀ n a b, R a b → (run1 n a).1 = (run2 n b).1 ∧ R (run1 n a).2 (run2 n b).2 := by
  intro n
  induction n with
  | zero =>
    intro a b h
    rw [h1.1, h2.1]
    exact ⟨rfl, h⟩
  | succ n ih =>
    intro a b h
    have hs := hstep a b h
    rw [h1.2, h2.2]
    generalize step1 a = r1, step2 b = r2 at hs
    cases hs with
    | none => exact ⟨rfl, h⟩
    | some i h' => exact ⟨congrArg (some i :: ·) (ih _ _ h').1, (ih _ _ h').2⟩

variable {σ τ ε : Type}

/-- what a user (and the semantic actions) can observe of a lexer state: everything except the state numbers `__state` / `__initial_state`
and the saved match -/
def LState.obs (st : LState σ) : Bool × σ × List Nat × Loc × Loc := (st.done, st.user, st.iter, st.curStart, st.curEnd)

theorem runN_isRun (cfg : Config σ τ ε) : IsRun (next cfg) (runN cfg) := by
  refine ⟨fun _ => rfl, fun n st => ?_⟩
  rw [runN]
  cases next cfg st <;> rfl

end Lexgen
