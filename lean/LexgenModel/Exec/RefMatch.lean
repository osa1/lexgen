import LexgenModel.Spec.WellFormed
/-!
# Executable reference matcher and maximal-munch selector (Brzozowski derivatives)

Computable counterparts of the language-level specification (`den`, `classDen`, `matchingAccs`,
`CtxLang`, `firstLang`, `LangCand`, `Selects`). The equivalence proofs are in `Proofs/RefMatch.lean`.

`Regex` has no constructor for the empty language or the empty word: `emptyR = .str []` denotes the
empty language and `epsR = .star (.str [])` denotes exactly the empty word. Derivatives are built with
smart constructors (`mkCat`, `mkAlt`) that simplify with these two and keep alternations flattened and
duplicate-free, so that the set of iterated derivatives of a regex stays small.
-/
namespace Lexgen

/-! ## Character classes -/

/-- membership of a code point in a bracket-set item (`itemHas`, decided) -/
def itemHasB : CharOrRange → Nat → Bool
  | .chr c, x => x == c
  | .rng s e, x => decide (s ≤ x) && decide (x ≤ e)

/-- membership of a code point in a (variable-free) class expression. As an operand of a class expression `_` is the code
points `≤ charMax` (`classDen`); as a regex of its own it reads any character (`oneSym`, `den`). -/
def classMem : Regex → Nat → Bool
  | .chr c, x => x == c
  | .set items, x => items.any fun it => itemHasB it x
  | .any, x => decide (x ≤ charMax)
  | .builtin n, x =>
    match builtinRanges n with
    | none => false
    | some rs => rs.any fun p => decide (p.1 ≤ x) && decide (x ≤ p.2)
  | .alt a b, x => classMem a x || classMem b x
  | .diff a b, x => classMem a x && !classMem b x
  | _, _ => false

/-! ## Nullability, smart constructors, derivative -/

/-- `[] ∈ den r` -/
def nullableR : Regex → Bool
  | .star _ => true
  | .opt _ => true
  | .plus r => nullableR r
  | .cat a b => nullableR a && nullableR b
  | .alt a b => nullableR a || nullableR b
  | _ => false

/-- the empty language -/
def emptyR : Regex := .str []

/-- the language `{[]}` -/
def epsR : Regex := .star (.str [])

/-- `{[]}` if `b`, else the empty language -/
def ofBoolR (b : Bool) : Regex := if b then epsR else emptyR

/-- concatenation, simplified with `emptyR` and `epsR` -/
def mkCat (a b : Regex) : Regex :=
  if a = emptyR then emptyR
  else if b = emptyR then emptyR
  else if a = epsR then b
  else if b = epsR then a
  else .cat a b

/-- the alternatives of a regex (alternations flattened) -/
def altsR : Regex → List Regex
  | .alt a b => altsR a ++ altsR b
  | r => [r]

/-- alternation of a list (right-nested; `emptyR` for the empty list) -/
def altOfList : List Regex → Regex
  | [] => emptyR
  | [r] => r
  | r :: rs => .alt r (altOfList rs)

/-- remove duplicates (keeps the last occurrence of each element) -/
def dedupR : List Regex → List Regex
  | [] => []
  | r :: rs => if rs.contains r then dedupR rs else r :: dedupR rs

/-- alternation modulo associativity, idempotence and the unit `emptyR` -/
def mkAlt (a b : Regex) : Regex :=
  altOfList (dedupR ((altsR a ++ altsR b).filter fun r => !(r == emptyR)))

/-- the one-symbol regexes: does the symbol belong to the class? -/
def oneSym : Regex → Sym → Bool
  | .builtin n, .ch c => classMem (.builtin n) c
  | .chr c, .ch x => x == c
  | .set items, .ch c => items.any fun it => itemHasB it c
  | .any, .ch _ => true
  | .eoi, .eoi => true
  | .diff a b, .ch c => classMem (.diff a b) c
  | _, _ => false

/-- Brzozowski derivative -/
def derivR : Regex → Sym → Regex
  | .builtin n, x => ofBoolR (oneSym (.builtin n) x)
  | .var _, _ => emptyR
  | .chr c, x => ofBoolR (oneSym (.chr c) x)
  | .str [], _ => emptyR
  | .str (c :: cs), x => if x = .ch c then (if cs = [] then epsR else .str cs) else emptyR
  | .set items, x => ofBoolR (oneSym (.set items) x)
  | .star r, x => mkCat (derivR r x) (.star r)
  | .plus r, x => mkCat (derivR r x) (.star r)
  | .opt r, x => derivR r x
  | .cat a b, x =>
    if nullableR a then mkAlt (mkCat (derivR a x) b) (derivR b x) else mkCat (derivR a x) b
  | .alt a b, x => mkAlt (derivR a x) (derivR b x)
  | .any, x => ofBoolR (oneSym .any x)
  | .eoi, x => ofBoolR (oneSym .eoi x)
  | .diff a b, x => ofBoolR (oneSym (.diff a b) x)

/-- iterated derivative -/
def derivsR (r : Regex) (w : List Sym) : Regex := w.foldl derivR r

/-- `w ∈ den r` -/
def matchesR (r : Regex) (w : List Sym) : Bool := nullableR (derivsR r w)

/-! ## Rule sets -/

/-- computable `matchingAccs` -/
def matchingAccsB (rules : List CoreRule) (w : List Sym) : List Acc :=
  (rules.filter fun r => matchesR r.re w).map fun r => { value := r.value, ctx := r.ctx }

/-- does `r` denote some prefix of `w`? -/
def anyPrefixB : Regex → List Sym → Bool
  | r, [] => nullableR r
  | r, x :: w => nullableR r || (!(r == emptyR) && anyPrefixB (derivR r x) w)

/-- computable `CtxLang` -/
def ctxLangB (c : Regex) (rest : List Nat) : Bool := anyPrefixB c (ext rest)

/-- computable `firstLang` -/
def firstLangB (ctxAt : Nat → Regex) (rest : List Nat) : List Acc → Option Nat
  | [] => none
  | a :: more =>
    match a.ctx with
    | none => some a.value
    | some i => if ctxLangB (ctxAt i) rest then some a.value else firstLangB ctxAt rest more

/-- computable `LangCand` -/
def langCandB (rules : List CoreRule) (ctxAt : Nat → Regex) (iter : List Nat) (n a : Nat) (viaEoi : Bool) : Bool :=
  decide (n ≤ iter.length) &&
    if viaEoi then
      decide (n = iter.length) &&
        (firstLangB ctxAt [] (matchingAccsB rules (iter.map Sym.ch ++ [Sym.eoi])) == some a)
    else firstLangB ctxAt (iter.drop n) (matchingAccsB rules ((iter.take n).map Sym.ch)) == some a

/-! ## Maximal munch: one left-to-right pass over the input -/

/-- all rules derived by one symbol (rules whose regex became `emptyR` can never match again and are
dropped; the order of the others is kept) -/
def derivRules (rules : List CoreRule) (x : Sym) : List CoreRule :=
  (rules.map fun r => { r with re := derivR r.re x }).filter fun r => !(r.re == emptyR)

/-- accept entries of the rules that match the empty word, in rule order -/
def nullAccs (rules : List CoreRule) : List Acc :=
  (rules.filter fun r => nullableR r.re).map fun r => { value := r.value, ctx := r.ctx }

/-- `rules` are the rules derived by the `k` characters read so far, `rest` is what remains, `best` is
the longest match found at a length `< k` -/
def scanRef (ctxAt : Nat → Regex) : List CoreRule → Nat → List Nat → Option (Nat × Nat × Bool) →
    Option (Nat × Nat × Bool)
  | rules, k, [], best =>
    match firstLangB ctxAt [] (nullAccs (derivRules rules .eoi)) with
    | some a => some (k, a, true)
    | none =>
      match firstLangB ctxAt [] (nullAccs rules) with
      | some a => some (k, a, false)
      | none => best
  | rules, k, c :: rest, best =>
    let best' :=
      match firstLangB ctxAt (c :: rest) (nullAccs rules) with
      | some a => some (k, a, false)
      | none => best
    match derivRules rules (.ch c) with
    | [] => best'
    | rules' => scanRef ctxAt rules' (k + 1) rest best'

/-- maximal munch with first-rule priority, executable: the `candLe`-greatest match -/
def selectRef (rules : List CoreRule) (ctxAt : Nat → Regex) (iter : List Nat) : Option (Nat × Nat × Bool) :=
  scanRef ctxAt rules 0 iter none

/-! ## Sanity checks

```
def rules : List CoreRule := [
  { re := .str [105, 102], ctx := none, value := 0 },                                        -- "if"
  { re := .cat (.set [.rng 97 122]) (.star (.set [.rng 97 122, .rng 48 57])), ctx := none, value := 1 },  -- [a-z][a-z0-9]*
  { re := .plus (.set [.rng 48 57]), ctx := some 0, value := 2 },                            -- [0-9]+ > (' ' | $)
  { re := .plus (.chr 32), ctx := none, value := 3 },                                        -- ' '+
  { re := .cat (.chr 120) .eoi, ctx := none, value := 4 }]                                   -- 'x' $
def ctxAt : Nat → Regex := fun _ => .alt (.chr 32) .eoi
#eval selectRef rules ctxAt [105, 102, 32, 120]   -- some (2, 0, false)   "if x": keyword before identifier
#eval selectRef rules ctxAt [105, 102, 120]       -- some (3, 1, false)   "ifx": longest match
#eval selectRef rules ctxAt [49, 50, 32]          -- some (2, 2, false)   "12 ": right context holds
#eval selectRef rules ctxAt [49, 50]              -- some (2, 2, false)   "12": right context `$`
#eval selectRef rules ctxAt [49, 50, 97]          -- none                 "12a": right context fails
#eval selectRef rules ctxAt [120]                 -- some (1, 4, true)    "x": the `$` match wins at full length
#eval selectRef rules ctxAt [120, 32]             -- some (1, 1, false)
#eval selectRef rules ctxAt []                    -- none
#eval classMem (.builtin "XID_Start") 97          -- true
```
The same checks are `example .. := by decide +kernel` at the end of `Proofs/RefMatch.lean`.
-/

example : matchesR (.star (.alt (.chr 97) (.str [97, 97]))) [.ch 97, .ch 97, .ch 97] = true := by decide
example : classMem (.diff .any (.set [.rng 48 57])) 48 = false := by decide
example : selectRef [{ re := .cat (.chr 120) .eoi, ctx := none, value := 4 }, { re := .chr 120, ctx := none, value := 1 }]
    (fun _ => .any) [120] = some (1, 4, true) := by decide

end Lexgen
