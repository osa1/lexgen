import LexgenModel.Model.Runtime
/-!
# Decidable well-formedness of a compiled machine

What the run-time theorems assume of a machine (`MachineOK`) follows from these tests
(`machineOK_of_checker`); they are evaluated on the machine the macro actually produced.
-/
namespace Lexgen

def Trans.gotoTarget? : Trans → Option Nat
  | .goto t => some t
  | .accept _ => none

/-- `goto` successors of a simplified state. -/
def gotoSuccs (s : DState Trans) : List Nat := (DFA.succs s).filterMap Trans.gotoTarget?

/-- Ranges non-inverted, strictly increasing, disjoint. -/
def rangesWF {α : Type} : RangeMap α → Bool
  | [] => true
  | [(s, e, _)] => decide (s ≤ e)
  | (s1, e1, _) :: (s2, e2, v2) :: rest => decide (s1 ≤ e1) && decide (e1 < s2) && rangesWF ((s2, e2, v2) :: rest)

def keysDistinct {α : Type} : List (Nat × α) → Bool
  | [] => true
  | (k, _) :: rest => !(rest.any (·.1 == k)) && keysDistinct rest

/-- `l1` is a sub-list of `l2`. -/
def isSublist : List Acc → List Acc → Bool
  | [], _ => true
  | _ :: _, [] => false
  | a :: as, b :: bs => if a == b then isSublist as bs else isSublist (a :: as) bs

/-- Flags locally closed: along every `goto` edge `s → t`, if `s` backtracks or accepts then
`t` backtracks. -/
def flagsClosed (d : DFA Trans) : Bool :=
  d.all fun s => (s.backtrack || !s.accepting.isEmpty) → (gotoSuccs s).all fun t => (d.st t).backtrack

/-- If a char/range transition is `Accept accs` and the state has an any-transition, that one is
`Accept accs'` with `accs'` a sub-list of `accs`. -/
def acceptAnyClause (d : DFA Trans) : Bool :=
  d.all fun s =>
    match s.any with
    | none => true
    | some anyT =>
      (s.chars.map (·.2) ++ s.ranges.map (·.2.2)).all fun t =>
        match t with
        | .goto _ => true
        | .accept accs =>
          match anyT with
          | .accept accs' => isSublist accs' accs
          | .goto _ => false

structure WFReport where
  entriesOK : Bool
  targetsOK : Bool
  rangesOK : Bool
  charsOK : Bool
  eoiOK : Bool
  acceptAnyOK : Bool
  flagsOK : Bool
  ctxIdxOK : Bool
  state0OK : Bool
  inlOK : Bool
deriving Repr

def WFReport.all (r : WFReport) : Bool :=
  r.entriesOK && r.targetsOK && r.rangesOK && r.charsOK && r.eoiOK && r.acceptAnyOK && r.flagsOK &&
  r.ctxIdxOK && r.state0OK && r.inlOK

def allAccs (d : DFA Trans) : List Acc :=
  d.foldl (fun acc s => acc ++ s.accepting ++ (DFA.succs s).foldl (fun a t =>
    match t with | .accept l => a ++ l | .goto _ => a) []) []

/-- strictly ascending -/
def ascending : List Nat → Bool
  | [] => true
  | [_] => true
  | a :: b :: rest => decide (a < b) && ascending (b :: rest)

/-- The set of inlined states is usable by the generated code, whatever policy chose it: strictly
ascending, within range, no initial state. -/
def inlOK (d : DFA Trans) (inl : List Nat) : Bool :=
  ascending inl && inl.all fun i => decide (i < d.length) && !(d.st i).initial

def machineWF (d : DFA Trans) (entries : List (String × Nat)) (nCtx : Nat) (inl : List Nat) : WFReport :=
  { entriesOK := entries.all fun e =>
      e.2 < d.length && (d.st e.2).initial && (d.st e.2).preds.isEmpty && (d.st e.2).accepting.isEmpty
    targetsOK := d.all fun s => (gotoSuccs s).all fun t => t < d.length && !(d.st t).initial
    rangesOK := d.all fun s => rangesWF s.ranges
    charsOK := d.all fun s => keysDistinct s.chars
    eoiOK := d.all fun s => match s.eoi with | some (.goto _) => false | _ => true
    acceptAnyOK := acceptAnyClause d
    flagsOK := flagsClosed d
    ctxIdxOK := (allAccs d).all fun a => match a.ctx with | some i => i < nCtx | none => true
    -- state 0 is where failures return to and the only state whose end-of-input default is
    -- `return None`: it must be an initial state; when rule sets are named it must be `Init`'s
    state0OK := decide (0 < d.length) && (d.st 0).initial && (d.st 0).accepting.isEmpty &&
      (entries.isEmpty || entries.any fun e => e.1 == "Init" && e.2 == 0)
    inlOK := inlOK d inl }

/-- Right-context DFAs (not simplified): targets in range, tables well-formed, end-of-input
targets accepting and without end-of-input successors of their own. -/
def ctxWF (d : DFA Nat) : Bool :=
  d.all fun s =>
    (DFA.succs s).all (· < d.length) && rangesWF s.ranges && keysDistinct s.chars &&
    match s.eoi with
    | some t => !(d.st t).accepting.isEmpty
    | none => true

end Lexgen
