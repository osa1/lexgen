import LexgenModel.Model.Runtime
/-!
# Complete per-program comparison of two automata (product exploration)

Both the pre-simplification DFA (`DFA Nat`) and the simplified one (`DFA Trans`) are read as
automata over configurations: a state, or the terminal configuration an `Accept` transition
stands for. Two configurations are compared on their accept lists, then on one representative of
every class of the partition of the code-point space induced by the keys and range end points of
both, and on the end-of-input symbol; the exploration is exhaustive, so equality is established
for every word, not for sampled words.
-/
namespace Lexgen

inductive Cfg where
  | st (s : Nat)
  | term (accs : List Acc)
deriving Repr, DecidableEq, Inhabited

class Target (τ : Type) where
  toCfg : τ → Cfg

instance : Target Nat := ⟨Cfg.st⟩
instance : Target Trans := ⟨fun | .goto s => .st s | .accept accs => .term accs⟩

namespace Auto

variable {τ : Type} [Target τ]

def acc (d : DFA τ) : Cfg → List Acc
  | .st s => (d.st s).accepting
  | .term accs => accs

def step (d : DFA τ) : Cfg → Nat → Option Cfg
  | .st s, c => (lookupTrans (d.st s) c).map Target.toCfg
  | .term _, _ => none

def eoi (d : DFA τ) : Cfg → Option Cfg
  | .st s => (d.st s).eoi.map Target.toCfg
  | .term _ => none

/-- Boundary points of the partition a configuration induces on code points. -/
def points (d : DFA τ) : Cfg → List Nat
  | .st s =>
    let st := d.st s
    st.chars.foldl (fun acc e => e.1 :: (e.1 + 1) :: acc) [] ++
    st.ranges.foldl (fun acc r => r.1 :: (r.2.1 + 1) :: acc) []
  | .term _ => []

end Auto

structure BisimResult where
  ok : Bool
  pairs : Nat
  /-- on failure: distinguishing word (code points, `1114112` stands for end-of-input) and what differs -/
  word : List Nat := []
  why : String := ""
  /-- on failure: the word extended to a shortest word accepted by the side that can go on
  (a candidate input on which the two machines produce different tokens) -/
  witness : List Nat := []
deriving Repr

def eoiSym : Nat := 0x110000

/-- Shortest word from `c` to a configuration with a non-empty accept list (breadth-first,
one representative per class; bounded). -/
def completion {τ : Type} [Target τ] (d : DFA τ) (c : Cfg) : List Nat :=
  let rec go : Nat → List (Cfg × List Nat) → List Cfg → List Nat
    | 0, _, _ => []
    | _ + 1, [], _ => []
    | fuel + 1, (x, w) :: queue, seen =>
      if !(Auto.acc d x).isEmpty then w.reverse
      else if seen.contains x then go fuel queue seen
      else
        let pts := ((0x7A :: Auto.points d x).filter (· ≤ charMax)).eraseDups
        let next := pts.filterMap fun p => (Auto.step d x p).map fun y => (y, p :: w)
        go fuel (queue ++ next) (x :: seen)
  go 4000 [(c, [])] []

def showAccs (l : List Acc) : String :=
  toString (l.map fun a => (a.value, a.ctx))

/-- Breadth-first product exploration. `fuel` bounds the number of processed pairs
(`|A|·|B|` + terminal configurations suffice; `bisim` passes a generous bound). -/
def bisimLoop {τ₁ τ₂ : Type} [Target τ₁] [Target τ₂] (a : DFA τ₁) (b : DFA τ₂)
    (accEq : List Acc → List Acc → Bool) :
    Nat → List (Cfg × Cfg × List Nat) → List (Cfg × Cfg) → BisimResult
  | 0, _, seen => { ok := false, pairs := seen.length, why := "fuel" }
  | _ + 1, [], seen => { ok := true, pairs := seen.length }
  | fuel + 1, (x, y, w) :: queue, seen =>
    if seen.contains (x, y) then bisimLoop a b accEq fuel queue seen
    else
      let seen := (x, y) :: seen
      if !accEq (Auto.acc a x) (Auto.acc b y) then
        { ok := false, pairs := seen.length, word := w.reverse,
          why := s!"accept lists differ: {showAccs (Auto.acc a x)} vs {showAccs (Auto.acc b y)}" }
      else
        let pts := (0 :: charMax :: (Auto.points a x ++ Auto.points b y)).filter (· ≤ charMax)
        let pts := pts.eraseDups
        -- compare on every representative
        let rec go : List Nat → List (Cfg × Cfg × List Nat) → Except (List Nat × String) (List (Cfg × Cfg × List Nat))
          | [], acc => .ok acc
          | c :: cs, acc =>
            match Auto.step a x c, Auto.step b y c with
            | none, none => go cs acc
            | some x', some y' =>
              -- enqueue each distinct target pair once
              if seen.contains (x', y') || acc.any (fun q => q.1 == x' && q.2.1 == y') then go cs acc
              else go cs ((x', y', c :: w) :: acc)
            | some x', none => .error ((c :: w).reverse ++ completion a x', "transition only on the left")
            | none, some y' => .error ((c :: w).reverse ++ completion b y', "transition only on the right")
        match go pts [] with
        | .error (word, why) => { ok := false, pairs := seen.length, word := word, why := why, witness := word }
        | .ok next =>
          match Auto.eoi a x, Auto.eoi b y with
          | none, none => bisimLoop a b accEq fuel (queue ++ next) seen
          | some x', some y' => bisimLoop a b accEq fuel (queue ++ (x', y', eoiSym :: w) :: next) seen
          | some _, none => { ok := false, pairs := seen.length, word := (eoiSym :: w).reverse, why := "end-of-input transition only on the left" }
          | none, some _ => { ok := false, pairs := seen.length, word := (eoiSym :: w).reverse, why := "end-of-input transition only on the right" }

def bisim {τ₁ τ₂ : Type} [Target τ₁] [Target τ₂] (a : DFA τ₁) (b : DFA τ₂)
    (accEq : List Acc → List Acc → Bool) (starts : List (Nat × Nat)) : BisimResult × Nat :=
  -- one exploration per start pair (so a failure names the entry it was found from); `seen` is not
  -- shared, which only costs time
  let fuel := 64 * (a.length + 2) * (b.length + 2) * (a.length + b.length + 4) + 1000
  let rec go : List (Nat × Nat) → Nat → Nat → BisimResult × Nat
    | [], _, pairs => ({ ok := true, pairs := pairs }, 0)
    | (x, y) :: rest, idx, pairs =>
      let r := bisimLoop a b accEq fuel [(Cfg.st x, Cfg.st y, [])] []
      if r.ok then go rest (idx + 1) (pairs + r.pairs) else (r, idx)
  go starts 0 0

end Lexgen
